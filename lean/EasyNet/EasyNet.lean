-- Root of the `EasyNet` library, by layer: the models of the Python code with the generated tables, the line-protocol
-- drivers, the lemma modules (grouped as in DESIGN.md §11.9), the property theorems.
-- models (`Gen/` = translator output)
import EasyNet.Model.Bytes
import EasyNet.Model.Framers
import EasyNet.Model.Consumer
import EasyNet.Model.Spec
import EasyNet.Model.Producer
import EasyNet.Model.Datagram
import EasyNet.Model.JRaw
import EasyNet.Model.GenericFr
import EasyNet.Model.StreamServer
import EasyNet.Model.Endpoint
import EasyNet.Model.RecvProto
import EasyNet.Model.RecvLayers
import EasyNet.Model.Retry
import EasyNet.Model.Send
import EasyNet.Model.Timeout
import EasyNet.Model.Senders
import EasyNet.Model.TlsSend
import EasyNet.Model.FlowCtl
import EasyNet.Model.Tls08
import EasyNet.Model.TlsEof
import EasyNet.Model.CancelScope
import EasyNet.Model.ClosePaths
import EasyNet.Model.Listener
import EasyNet.Model.DgramSrv
import EasyNet.Model.Iso
import EasyNet.Model.Life
import EasyNet.Model.Race
import EasyNet.Model.ExcFlow
import EasyNet.Gen.ExcTables
import EasyNet.Gen.TlsEofTables
import EasyNet.Gen.IsoTables
-- drivers
import EasyNet.Drv.Util
import EasyNet.Drv.Framing
import EasyNet.Drv.Datagram
import EasyNet.Drv.JRaw
import EasyNet.Drv.GenericFr
import EasyNet.Drv.StreamServer
import EasyNet.Drv.Endpoint
import EasyNet.Drv.RecvProto
import EasyNet.Drv.Send
import EasyNet.Drv.Timeout
import EasyNet.Drv.Senders
import EasyNet.Drv.TlsSend
import EasyNet.Drv.FlowCtl
import EasyNet.Drv.Tls08
import EasyNet.Drv.TlsEof
import EasyNet.Drv.CancelScope
import EasyNet.Drv.ClosePaths
import EasyNet.Drv.Listener
import EasyNet.Drv.DgramSrv
import EasyNet.Drv.Iso
import EasyNet.Drv.Life
import EasyNet.Drv.Race
import EasyNet.Drv.ExcFlow
-- lemmas: framing (C01, C02, C05, C06, C07)
import EasyNet.Lemmas.Find
import EasyNet.Lemmas.ChunkIndep
import EasyNet.Lemmas.ConsumerSim
import EasyNet.Lemmas.BufConsumerSim
import EasyNet.Lemmas.RUSpec
import EasyNet.Lemmas.RU
import EasyNet.Lemmas.BRU
import EasyNet.Lemmas.BRUSpec
import EasyNet.Lemmas.Fixed
import EasyNet.Lemmas.Resume
import EasyNet.Lemmas.Producer
import EasyNet.Lemmas.Datagram
import EasyNet.Lemmas.JRawSpec
import EasyNet.Lemmas.JRaw
import EasyNet.Lemmas.JRawLaws
import EasyNet.Lemmas.JRawFrames
import EasyNet.Lemmas.JRawGrammar
import EasyNet.Lemmas.GenericFr
import EasyNet.Lemmas.GenericFrBuf
import EasyNet.Lemmas.GenericFrToy
-- lemmas: receive side (C03, C15, C10)
import EasyNet.Lemmas.Iface
import EasyNet.Lemmas.Endpoint
import EasyNet.Lemmas.StreamServer
import EasyNet.Lemmas.RecvProto
import EasyNet.Lemmas.RecvLayers
-- lemmas: send side and time (C04, C11, C12, C20)
import EasyNet.Lemmas.Time
import EasyNet.Lemmas.TimeMachines
import EasyNet.Lemmas.SendData
import EasyNet.Lemmas.Client
import EasyNet.Lemmas.SendersList
import EasyNet.Lemmas.SendersWire
import EasyNet.Lemmas.SendersLock
import EasyNet.Lemmas.TlsSend
import EasyNet.Lemmas.FlowCtl
import EasyNet.Lemmas.FlowCtlFlush
import EasyNet.Lemmas.FlowCtlSched
-- lemmas: TLS (C08, C09)
import EasyNet.Lemmas.Tls08Core
import EasyNet.Lemmas.Tls08Step
import EasyNet.Lemmas.Tls08Inv
import EasyNet.Lemmas.Tls08Laws
import EasyNet.Lemmas.Tls08Ctl
import EasyNet.Lemmas.Tls08Duplex
import EasyNet.Lemmas.Tls08Pair
import EasyNet.Lemmas.TlsEof
import EasyNet.Lemmas.TlsEofGen
import EasyNet.Lemmas.TlsEofClose
-- lemmas: scheduling machines (C13, C14, C16, C17, C18, C19)
import EasyNet.Lemmas.CSFields
import EasyNet.Lemmas.CSAcct
import EasyNet.Lemmas.CSAcctRun
import EasyNet.Lemmas.CSIntDefs
import EasyNet.Lemmas.CSIntInv
import EasyNet.Lemmas.CSIntParked
import EasyNet.Lemmas.CSIntRun
import EasyNet.Lemmas.CSIntExec
import EasyNet.Lemmas.CSIntFinal
import EasyNet.Lemmas.ClosePaths
import EasyNet.Lemmas.Listener
import EasyNet.Lemmas.DgramSrv
import EasyNet.Lemmas.Iso
import EasyNet.Lemmas.IsoTcp
import EasyNet.Lemmas.IsoUdp
import EasyNet.Lemmas.LifeStep
import EasyNet.Lemmas.LifeA
import EasyNet.Lemmas.LifeAProg
import EasyNet.Lemmas.LifeS
import EasyNet.Lemmas.Race
import EasyNet.Lemmas.RaceProgress
import EasyNet.Lemmas.RaceSeq
import EasyNet.Lemmas.RaceReorder
-- property theorems
import EasyNet.Props.C01
import EasyNet.Props.C02
import EasyNet.Props.C03
import EasyNet.Props.C04
import EasyNet.Props.C05
import EasyNet.Props.C06
import EasyNet.Props.C07
import EasyNet.Props.C08
import EasyNet.Props.C09
import EasyNet.Props.C10
import EasyNet.Props.C11
import EasyNet.Props.C12
import EasyNet.Props.C13
import EasyNet.Props.C14
import EasyNet.Props.C15
import EasyNet.Props.C16
import EasyNet.Props.C17
import EasyNet.Props.C18
import EasyNet.Props.C19
import EasyNet.Props.C20

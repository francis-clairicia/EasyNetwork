/-
  _buffered_readuntil (buffered path, repaired variant): resumed, windowed search in the shared buffer
  = fresh scan of the received bytes (`BRU.spec`).
-/
import EasyNet.Lemmas.RUSpec
import EasyNet.Lemmas.BufConsumerSim
namespace EasyNet

def BRU.Inv (sep : Bytes) (cap : Nat) (s : BRUState) (b : Bytes) : Prop :=
  s.buflen = b.length ∧ (s.offset = 0 ∨ (s.offset + sep.length ≤ b.length + 1 ∧ b.length + 2 ≤ cap)) ∧
  ∀ j, j < s.offset → matchAt sep b j = false

/-- One `send`: the generator looks at the first `s.buflen + total` bytes of the buffer. -/
theorem BRU.feed_spec (sep : Bytes) (cap : Nat) (ke : Bool) (hsep : sep ≠ []) (s : BRUState) (buffer : Bytes)
    (total : Nat) (hcap : buffer.length = cap) (hinv : BRU.Inv sep cap s (buffer.take s.buflen))
    (hfit : s.buflen + total ≤ buffer.length) :
    (BRU.feed true sep ke s buffer total).erase = BRU.spec sep cap ke (buffer.take (s.buflen + total)) ∧
    ∀ s' st, BRU.feed true sep ke s buffer total = .need s' st →
      BRU.Inv sep cap s' (buffer.take (s.buflen + total)) ∧ st = s.buflen + total := by
  have hwl : (buffer.take (s.buflen + total)).length = s.buflen + total := List.length_take_of_le hfit
  have hfull := hinv.2.1
  rw [List.length_take_of_le (Nat.le_trans (Nat.le_add_right ..) hfit)] at hfull
  -- matches before the resume offset are excluded in the longer window too
  have hno' : ∀ j, j < s.offset → matchAt sep (buffer.take (s.buflen + total)) j = false := by
    intro j hj
    have hjl : j + sep.length ≤ s.buflen := by
      rcases hfull with h0 | ⟨h1, _⟩
      · rw [h0] at hj; exact absurd hj (Nat.not_lt_zero _)
      · exact Nat.le_of_succ_le_succ (Nat.le_trans (Nat.succ_add .. ▸ Nat.add_le_add_right hj _) h1)
    rw [matchAt_take _ _ _ _ (Nat.le_trans hjl (Nat.le_add_right ..)), ← matchAt_take _ _ _ _ hjl]
    exact hinv.2.2 j hj
  rw [BRU.spec_eq]
  unfold BRU.feed
  simp only [if_true]
  by_cases hsearch : s.offset + sep.length ≤ s.buflen + total
  · clear hfull hinv
    rw [if_pos hsearch, findIn_window sep buffer s.offset _ hsep hfit hno']
    cases hf : firstOcc sep (buffer.take (s.buflen + total)) with
    | some i =>
      have hi := (firstOcc_some _ _ _ hf).1
      rw [hwl] at hi
      rw [sepSpec_of_some hf, List.take_take,
        Nat.min_eq_left (cut_le hi)]
      exact ⟨rfl, fun s' st h => by cases h⟩
    | none =>
      have hsl : sep.length ≤ s.buflen + total := Nat.le_trans (Nat.le_add_left ..) hsearch
      have hsub : s.buflen + total + 1 - sep.length + sep.length = s.buflen + total + 1 :=
        Nat.sub_add_cancel (Nat.le_succ_of_le hsl)
      rw [sepSpec_of_none hf, hwl, hsub, hcap]
      by_cases hl : s.buflen + total + 1 + 1 > cap
      · rw [if_pos hl, if_pos (decide_eq_true ⟨hl, hsl⟩)]
        exact ⟨rfl, fun s' st h => by cases h⟩
      · rw [if_neg hl, if_neg (fun h => hl (of_decide_eq_true h).1)]
        refine ⟨rfl, fun s' st h => ?_⟩
        injection h with h1 h2
        subst h1 h2
        refine ⟨⟨hwl.symm, Or.inr ⟨?_, ?_⟩, fun j hj => firstOcc_none _ _ hsep hf j ?_⟩, rfl⟩
        · rw [hwl]; exact Nat.le_of_eq hsub
        · rw [hwl]; exact Nat.le_of_not_gt hl
        · rw [hwl]; exact Nat.le_of_lt_succ (Nat.add_lt_of_lt_sub hj)
  · -- nothing new to search: either no search has happened yet and fewer than `|sep|` bytes are there, or nothing
    -- arrived since the last search and its test for room still stands
    have hshort : s.buflen + total < s.offset + sep.length := Nat.lt_of_not_le hsearch
    have hkey : s.offset = 0 ∧ s.buflen + total < sep.length ∨
        s.offset + sep.length ≤ s.buflen + total + 1 ∧ s.buflen + total + 2 ≤ cap := by
      rcases hfull with h0 | ⟨h1, h3⟩
      · exact Or.inl ⟨h0, by rw [h0, Nat.zero_add] at hshort; exact hshort⟩
      · have ht : total = 0 := Nat.lt_one_iff.mp (Nat.lt_of_add_lt_add_left (Nat.lt_of_lt_of_le hshort h1))
        subst ht
        exact Or.inr ⟨h1, h3⟩
    rw [if_neg hsearch, sepSpec_of_none (firstOcc_eq_none_of_short sep _ s.offset hno' (hwl.symm ▸ hshort)), hwl,
      if_neg (fun h => hkey.elim (fun k => Nat.not_le_of_gt k.2 (of_decide_eq_true h).2)
        (fun k => Nat.not_le_of_gt (of_decide_eq_true h).1 k.2))]
    refine ⟨rfl, fun s' st h => ?_⟩
    injection h with h1 h2
    subst h1 h2
    exact ⟨⟨hwl.symm, by dsimp only; rw [hwl]; exact hkey.imp And.left id, hno'⟩, rfl⟩

theorem BRU.refines (sep : Bytes) (cap : Nat) (ke : Bool) (hsep : sep ≠ []) :
    BRefines BRU.init (BRU.feed true sep ke) (·.buflen) (BRU.spec sep cap ke) (BRU.Inv sep cap) cap := by
  have P : ProgLaws (BRU.spec sep cap ke) := by
    rw [BRU.spec_eq]; exact sepSpec_prog hsep (fun n h => (of_decide_eq_true h).2)
  exact ⟨⟨rfl, Or.inl rfl, fun j hj => absurd hj (Nat.not_lt_zero _)⟩, fun s b h => h.1,
    BRU.feed_spec sep cap ke hsep, P.progress_done, P.progress_fail⟩

end EasyNet

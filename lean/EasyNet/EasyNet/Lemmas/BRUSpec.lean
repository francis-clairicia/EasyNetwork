/-
  `BRU.spec` (separator framing, buffered path, capacity `cap`) as an instance of `sepSpec`: it satisfies the
  `SpecLaws` for frames safely inside the capacity (`|payload| + |sep| < cap`), and decodes a concatenation of such
  frames into exactly those frames.
-/
import EasyNet.Lemmas.BRU
namespace EasyNet

/-- frame data delivered for a frame that ends strictly before the last byte of the buffer -/
def BRU.okFrame (sep : Bytes) (cap : Nat) (ke : Bool) (d : Bytes) : Prop :=
  (if ke then d.length else d.length + sep.length) < cap

instance (sep : Bytes) (cap : Nat) (ke : Bool) (d : Bytes) : Decidable (BRU.okFrame sep cap ke d) := by
  unfold BRU.okFrame; infer_instance

theorem BRU.okFrame_iff {sep : Bytes} {cap : Nat} {ke : Bool} {d : Bytes} {i : Nat}
    (hd : d.length = if ke then i + sep.length else i) : BRU.okFrame sep cap ke d ↔ i + sep.length < cap := by
  rw [BRU.okFrame, hd]
  cases ke <;> exact Iff.rfl

theorem BRU.spec_laws (sep : Bytes) (cap : Nat) (ke : Bool) (hsep : sep ≠ []) :
    SpecLaws (BRU.spec sep cap ke) (BRU.okFrame sep cap ke) := by
  rw [BRU.spec_eq]
  refine sepSpec_laws hsep ⟨?_, ?_, ?_⟩
  · intro n m hnm h
    have h := of_decide_eq_true h
    exact decide_eq_true ⟨Nat.lt_of_lt_of_le h.1 (Nat.add_le_add_right hnm 2), Nat.le_trans h.2 hnm⟩
  · intro n h; exact (of_decide_eq_true h).2
  · -- `ok d` says `i + |sep| < cap`, so data shorter than `i + |sep|` leaves the last two bytes of the buffer free
    intro d i n hok _ hd hn
    have hlt := (BRU.okFrame_iff hd).mp hok
    exact decide_eq_false fun h => Nat.not_lt.mpr (Nat.succ_le_of_lt (Nat.lt_of_le_of_lt (Nat.succ_le_of_lt hn) hlt)) h.1

/-- the two byte-level specs agree on streams that are safe for the buffered path (limit = capacity) -/
theorem decodeW_paths_agree (sep : Bytes) (limit : Nat) (ke : Bool) (hsep : sep ≠ []) (S : Bytes)
    (hsafe : AllOk (BRU.okFrame sep limit ke) (decodeW (BRU.spec sep limit ke) S).2) :
    decodeW (RU.spec sep limit ke) S = decodeW (BRU.spec sep limit ke) S := by
  refine decodeW_congr (RU.spec_laws sep limit ke hsep).prog (BRU.spec_laws sep limit ke hsep).prog ?_ ?_ S hsafe
  · -- the buffered path waits only while two bytes of the buffer are still free
    intro b h
    rw [BRU.spec_eq] at h
    obtain ⟨hf, hov⟩ := sepSpec_need h
    rw [RU.spec_eq, sepSpec_of_none hf, if_neg]
    intro h
    have h := of_decide_eq_true h
    exact of_decide_eq_false hov ⟨Nat.lt_of_lt_of_le h (Nat.le_trans (Nat.sub_le ..) (Nat.le_succ _)),
      Nat.le_of_lt_succ (Nat.lt_of_sub_pos (Nat.lt_of_le_of_lt (Nat.zero_le _) h))⟩
  · -- a frame safely inside the buffer is within the limit
    intro b d r h hok
    rw [BRU.spec_eq] at h
    obtain ⟨i, hf, _, rfl, rfl⟩ := sepSpec_done h
    have hi := (firstOcc_some _ _ _ hf).1
    have hlt := (BRU.okFrame_iff (List.length_take_of_le (cut_le hi))).mp hok
    rw [RU.spec_eq, sepSpec_of_some hf,
      if_neg (mt of_decide_eq_true (Nat.not_lt.mpr (Nat.le_of_lt (Nat.lt_of_le_of_lt (Nat.le_add_right ..) hlt))))]

/-- `BRU.spec` waits only while two bytes of the buffer are free, so `get_write_buffer()` then offers at least one byte
    (the consumer never reaches its "start position at end of buffer" crash) -/
theorem BRU.room_pos_of_idle (sep : Bytes) (cap : Nat) (ke : Bool) (hsep : sep ≠ []) (hcap : sep.length ≤ cap)
    {c : BufConsumer BRUState} {h : Bytes}
    (hrel : BufConsumer.Rel (·.buflen) (BRU.spec sep cap ke) (BRU.Inv sep cap) cap c h)
    (hidle : h = [] ∨ BRU.spec sep cap ke h = .need) : 0 < (BufConsumer.prepare BRU.init 0 cap c).room := by
  have hpos : 0 < sep.length := List.length_pos_iff.mpr hsep
  obtain ⟨s, hA⟩ := BufConsumer.prepare_active (init := BRU.init) (BRU.refines sep cap ke hsep)
    (Nat.lt_of_lt_of_le hpos hcap) hrel
  rw [hA.room]
  rcases hidle with rfl | hneed
  · exact Nat.lt_of_lt_of_le hpos hcap
  · rw [BRU.spec_eq] at hneed
    have := of_decide_eq_false (sepSpec_need hneed).2
    omega

def ValidPayloadB (sep : Bytes) (cap : Nat) (p : Bytes) : Prop :=
  firstOcc sep (p ++ sep) = some p.length ∧ p.length + sep.length < cap

instance (sep : Bytes) (cap : Nat) (p : Bytes) : Decidable (ValidPayloadB sep cap p) := by
  unfold ValidPayloadB; infer_instance

theorem BRU.spec_frame (sep : Bytes) (cap : Nat) (ke : Bool) (hsep : sep ≠ []) (p rest : Bytes)
    (hv : firstOcc sep (p ++ sep) = some p.length) :
    BRU.spec sep cap ke (p ++ sep ++ rest) = .done (if ke then p ++ sep else p) rest := by
  rw [BRU.spec_eq, sepSpec_frame hsep p rest hv]; rfl

theorem BRU.decode_frames (sep : Bytes) (cap : Nat) (ke : Bool) (hsep : sep ≠ []) (ps : List Bytes)
    (hv : ∀ p ∈ ps, ValidPayloadB sep cap p) :
    decodeW (BRU.spec sep cap ke) (encodeFrames sep ps) = ([], ps.map (frameOf sep ke)) :=
  (BRU.spec_laws sep cap ke hsep).prog.decodeW_map_frames (· ++ sep) (fun p => if ke then p ++ sep else p) ps
    fun p hp rest => BRU.spec_frame sep cap ke hsep p rest (hv p hp).1

theorem BRU.frames_allOk (sep : Bytes) (cap : Nat) (ke : Bool) (ps : List Bytes)
    (hv : ∀ p ∈ ps, ValidPayloadB sep cap p) :
    AllOk (BRU.okFrame sep cap ke) (ps.map (frameOf sep ke)) :=
  AllOk_map_frame _ ps fun p hp => (BRU.okFrame_iff (i := p.length) (by cases ke <;> simp)).mpr (hv p hp).2

end EasyNet

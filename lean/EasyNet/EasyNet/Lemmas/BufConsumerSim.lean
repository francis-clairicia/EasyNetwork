/-
  The buffer-filling consumer (BufferedStreamDataConsumer) over any buffered framer that refines a byte-level
  spec behaves like the reference `refRun spec`, for every sequence of fills that fit the offered buffer.
-/
import EasyNet.Lemmas.ChunkIndep
namespace EasyNet

theorem writeAt_length (buf : Bytes) (pos : Nat) (d : Bytes) (h : pos + d.length ≤ buf.length) :
    (writeAt buf pos d).length = buf.length := by
  rw [writeAt, List.length_append, List.length_append, List.length_drop,
    List.length_take_of_le (Nat.le_trans (Nat.le_add_right ..) h)]
  exact Nat.add_sub_cancel' h

theorem writeAt_take_end (buf : Bytes) (pos : Nat) (d : Bytes) (h : pos + d.length ≤ buf.length) :
    (writeAt buf pos d).take (pos + d.length) = buf.take pos ++ d := by
  have h1 : (buf.take pos ++ d).length = pos + d.length := by
    rw [List.length_append, List.length_take_of_le (Nat.le_trans (Nat.le_add_right ..) h)]
  rw [writeAt, ← h1, List.take_left]

theorem writeAt_take_before (buf : Bytes) (pos k : Nat) (d : Bytes) (hk : k ≤ pos) (h : pos ≤ buf.length) :
    (writeAt buf pos d).take k = buf.take k := by
  rw [writeAt, List.append_assoc, List.take_append_of_le_length (by rw [List.length_take_of_le h]; exact hk),
    List.take_take, Nat.min_eq_left hk]

/-- "buffered framer `(init, feed)` refines `spec`"; `acc s` = number of bytes the framer has been given -/
structure BRefines {σ : Type} (init : σ) (feed : σ → Bytes → Nat → BRes σ) (acc : σ → Nat)
    (spec : Bytes → SRes) (Inv : σ → Bytes → Prop) (cap : Nat) : Prop where
  init : Inv init []
  acc_eq : ∀ s b, Inv s b → acc s = b.length
  step : ∀ s buffer total, buffer.length = cap → Inv s (buffer.take (acc s)) → acc s + total ≤ buffer.length →
    (feed s buffer total).erase = spec (buffer.take (acc s + total)) ∧
    ∀ s' st, feed s buffer total = .need s' st → Inv s' (buffer.take (acc s + total)) ∧ st = acc s + total
  rest_lt : ∀ b d r, spec b = .done d r → r.length < b.length
  rest_lt' : ∀ b r, spec b = .fail r → r.length < b.length

/-- consumer state `c` (capacity `cap`) retains exactly the bytes `h` -/
def BufConsumer.Rel {σ} (acc : σ → Nat) (spec : Bytes → SRes) (Inv : σ → Bytes → Prop) (cap : Nat)
    (c : BufConsumer σ) (h : Bytes) : Prop :=
  c.crashed = false ∧
  ((c.fr = none ∧ c.written = 0 ∧ h = [] ∧ (c.buffer = [] ∨ c.buffer.length = cap)) ∨
   (∃ s, c.fr = some s ∧ c.buffer.length = cap ∧ c.start = acc s ∧ acc s + c.written ≤ cap ∧
      c.buffer.take (acc s + c.written) = h ∧ Inv s (c.buffer.take (acc s)) ∧
      (c.written = 0 → h = [] ∨ spec h = .need)))

variable {σ : Type} {init : σ} {feed : σ → Bytes → Nat → BRes σ} {acc : σ → Nat}
  {spec : Bytes → SRes} {Inv : σ → Bytes → Prop} {cap : Nat} {c : BufConsumer σ} {s : σ} {h : Bytes}

theorem BRefines.prog (R : BRefines init feed acc spec Inv cap) : ProgLaws spec := ⟨R.rest_lt, R.rest_lt'⟩

/-- the framer `s` is suspended in `c`, which retains `h`: the second alternative of `BufConsumer.Rel` -/
structure BufConsumer.Active (acc : σ → Nat) (spec : Bytes → SRes) (Inv : σ → Bytes → Prop) (cap : Nat)
    (c : BufConsumer σ) (s : σ) (h : Bytes) : Prop where
  crashed : c.crashed = false
  fr : c.fr = some s
  len : c.buffer.length = cap
  start : c.start = acc s
  fit : acc s + c.written ≤ cap
  take : c.buffer.take (acc s + c.written) = h
  inv : Inv s (c.buffer.take (acc s))
  idle : c.written = 0 → h = [] ∨ spec h = .need

namespace BufConsumer.Active
variable (hA : BufConsumer.Active acc spec Inv cap c s h)
include hA

theorem rel : BufConsumer.Rel acc spec Inv cap c h :=
  ⟨hA.crashed, Or.inr ⟨s, hA.fr, hA.len, hA.start, hA.fit, hA.take, hA.inv, hA.idle⟩⟩

theorem length : h.length = acc s + c.written := by
  rw [← hA.take, List.length_take, hA.len, Nat.min_eq_left hA.fit]

theorem room : c.room = cap - h.length := by
  rw [hA.length, BufConsumer.room, hA.len, hA.start]

end BufConsumer.Active

/-- re-injecting a non-empty remainder after a finished framer: the buffer exists, so `get_write_buffer()` only starts
    a framer, and there is room -/
theorem BufConsumer.saveRemainder_eq (hcap : 0 < cap) (c : BufConsumer σ) (hlen : c.buffer.length = cap) {r : Bytes}
    (hr : r ≠ []) :
    BufConsumer.saveRemainder init 0 cap { c with written := 0, fr := none } r =
      { c with buffer := writeAt c.buffer 0 r, start := 0, written := r.length, fr := some init } := by
  have hroom : ¬ (c.buffer.length = 0) := by rw [hlen]; exact Nat.ne_of_gt hcap
  have hne := List.isEmpty_eq_false_iff.mpr (List.ne_nil_of_length_pos (hlen ▸ hcap))
  simp only [BufConsumer.saveRemainder, BufConsumer.prepare, BufConsumer.room, List.isEmpty_eq_false_iff.mpr hr, hne,
    hroom, if_false, Nat.add_zero, Nat.zero_add, Nat.sub_zero, Bool.false_eq_true]

theorem BufConsumer.saveRemainder_rel (R : BRefines init feed acc spec Inv cap) (hcap : 0 < cap)
    (c : BufConsumer σ) (rest : Bytes) (hlen : c.buffer.length = cap) (hcr : c.crashed = false)
    (hrest : rest.length < cap) :
    BufConsumer.Rel acc spec Inv cap (BufConsumer.saveRemainder init 0 cap { c with written := 0, fr := none } rest)
      rest ∧
    (BufConsumer.saveRemainder init 0 cap { c with written := 0, fr := none } rest).written = rest.length := by
  have hacc0 : acc init = 0 := R.acc_eq init [] R.init
  cases rest with
  | nil => exact ⟨⟨hcr, Or.inl ⟨rfl, rfl, rfl, Or.inr hlen⟩⟩, rfl⟩
  | cons x xs =>
    have hfits : 0 + (x :: xs).length ≤ c.buffer.length := by rw [hlen, Nat.zero_add]; exact Nat.le_of_lt hrest
    rw [BufConsumer.saveRemainder_eq hcap c hlen (List.cons_ne_nil x xs)]
    refine ⟨BufConsumer.Active.rel (s := init)
      ⟨hcr, rfl, (writeAt_length _ _ _ hfits).trans hlen, hacc0.symm, ?_, ?_, ?_, fun h0 => by cases h0⟩, rfl⟩
    · show acc init + (x :: xs).length ≤ cap
      rw [hacc0, Nat.zero_add]; exact Nat.le_of_lt hrest
    · show (writeAt c.buffer 0 (x :: xs)).take (acc init + (x :: xs).length) = x :: xs
      rw [hacc0, writeAt_take_end _ _ _ hfits]; rfl
    · show Inv init ((writeAt c.buffer 0 (x :: xs)).take (acc init))
      rw [hacc0]; exact R.init

theorem BufConsumer.next_eq {st cap : Nat} (hfr : c.fr = some s) (nb : Nat) :
    BufConsumer.next init st cap feed c nb =
      if nb + c.written = 0 then ({ c with written := 0 }, none)
      else match feed s c.buffer (nb + c.written) with
        | .need s' st' => ({ c with written := 0, fr := some s', start := st' }, none)
        | .done data rest =>
          (BufConsumer.saveRemainder init st cap { c with written := 0, fr := none } rest, some (.frame data))
        | .fail rest => (BufConsumer.saveRemainder init st cap { c with written := 0, fr := none } rest, some .limit) := by
  obtain ⟨b, st0, w, f, cr⟩ := c
  dsimp only at hfr
  subst hfr
  rfl

theorem BufConsumer.next_of_out {st cap : Nat} (hfr : c.fr = some s) {nb : Nat}
    (hpos : nb + c.written ≠ 0) {it : Item} {r : Bytes}
    (h : (feed s c.buffer (nb + c.written)).erase.out = some (it, r)) :
    BufConsumer.next init st cap feed c nb =
      (BufConsumer.saveRemainder init st cap { c with written := 0, fr := none } r, some it) := by
  rw [BufConsumer.next_eq hfr, if_neg hpos]
  generalize feed s c.buffer (nb + c.written) = x at h
  cases x with
  | need s' st' => cases h
  | done d r' => cases h; rfl
  | fail r' => cases h; rfl

theorem BufConsumer.next_zero {start0 : Nat} (hfr : c.fr = some s) (hw : c.written = 0) :
    BufConsumer.next init start0 cap feed c 0 = (c, none) := by
  obtain ⟨b, st, w, f, cr⟩ := c
  dsimp only at hfr hw
  subst hfr hw
  rfl

/-- `next(nb)` with a suspended framer that gets the bytes `b` to look at (the new ones are in the buffer already) -/
theorem BufConsumer.Active.next_out (R : BRefines init feed acc spec Inv cap) (hcap : 0 < cap)
    (hA : BufConsumer.Active acc spec Inv cap c s h) {nb : Nat} {b : Bytes} (hfit : nb ≤ cap - h.length)
    (hb : c.buffer.take (acc s + (nb + c.written)) = b) :
    Follows spec (BufConsumer.Rel acc spec Inv cap) (fun c' r => c'.written = r.length) b
      (BufConsumer.next init 0 cap feed c nb) := by
  by_cases hzero : nb + c.written = 0
  · -- `next(None)` with nothing pending: `StopIteration`, and `h` stays retained
    obtain ⟨rfl, hw⟩ := Nat.add_eq_zero_iff.mp hzero
    obtain rfl : h = b := by rw [← hb, Nat.zero_add]; exact hA.take.symm
    refine ⟨fun _ => ⟨c, BufConsumer.next_zero hA.fr hw, hA.rel⟩, fun hne it r ho => ?_⟩
    rw [(hA.idle hw).resolve_left hne] at ho
    cases ho
  have hpos : 0 < nb + c.written := Nat.pos_of_ne_zero hzero
  subst hb
  have hfit : acc s + (nb + c.written) ≤ cap := by
    have := hA.fit
    have := hA.length
    omega
  have hfit' : acc s + (nb + c.written) ≤ c.buffer.length := hA.len.symm ▸ hfit
  have hstep := R.step s c.buffer (nb + c.written) hA.len hA.inv hfit'
  have hbne : c.buffer.take (acc s + (nb + c.written)) ≠ [] :=
    List.ne_nil_of_length_pos (by rw [List.length_take_of_le hfit']; exact Nat.lt_of_lt_of_le hpos (Nat.le_add_left ..))
  refine ⟨fun hn => ?_, fun _ it r ho => ?_⟩
  · have hneed := hn.resolve_left hbne
    cases hf : feed s c.buffer (nb + c.written) with
    | need s' st =>
      obtain ⟨hinv', rfl⟩ := hstep.2 s' st hf
      have hacc : acc s' = acc s + (nb + c.written) := by
        rw [R.acc_eq s' _ hinv', List.length_take_of_le hfit']
      refine ⟨{ c with written := 0, fr := some s', start := acc s + (nb + c.written) }, ?_,
        BufConsumer.Active.rel (s := s') ⟨hA.crashed, rfl, hA.len, hacc.symm, ?_, ?_, ?_, fun _ => Or.inr hneed⟩⟩
      · rw [BufConsumer.next_eq hA.fr, if_neg hzero, hf]
      · show acc s' + 0 ≤ cap
        rw [Nat.add_zero, hacc]; exact hfit
      · show c.buffer.take (acc s' + 0) = _
        rw [hacc]; rfl
      · show Inv s' (c.buffer.take (acc s'))
        rw [hacc]; exact hinv'
    | done d r => rw [← hstep.1, hf] at hneed; cases hneed
    | fail r => rw [← hstep.1, hf] at hneed; cases hneed
  · have hlt := R.prog.out_lt ho
    rw [List.length_take_of_le hfit'] at hlt
    rw [← hstep.1] at ho
    have := BufConsumer.saveRemainder_rel R hcap c r hA.len hA.crashed (Nat.lt_of_lt_of_le hlt hfit)
    exact ⟨_, BufConsumer.next_of_out hA.fr hzero ho, this.1, this.2⟩

theorem BufConsumer.Rel.next_none (R : BRefines init feed acc spec Inv cap) (hcap : 0 < cap)
    (hrel : BufConsumer.Rel acc spec Inv cap c h) :
    Follows spec (BufConsumer.Rel acc spec Inv cap) (fun c' r => c'.written = r.length) h
      (BufConsumer.next init 0 cap feed c 0) := by
  have hrel' := hrel
  rcases hrel with ⟨hcr, ⟨hfr, hw, rfl, hbuf⟩ | ⟨s, hfr, hlen, hst, hfit, htake, hinv, hw0⟩⟩
  · exact ⟨fun _ => ⟨c, by rw [BufConsumer.next, hfr], hrel'⟩, fun hne => absurd rfl hne⟩
  · exact BufConsumer.Active.next_out R hcap ⟨hcr, hfr, hlen, hst, hfit, htake, hinv, hw0⟩ (Nat.zero_le _)
      (by rw [Nat.zero_add]; exact htake)

theorem BufConsumer.drain_ref (R : BRefines init feed acc spec Inv cap) (hcap : 0 < cap)
    (fuel : Nat) (c : BufConsumer σ) (h : Bytes) (hrel : BufConsumer.Rel acc spec Inv cap c h) :
    (BufConsumer.drain init 0 cap feed fuel c).2 = (refDrain spec fuel h).2 ∧
    BufConsumer.Rel acc spec Inv cap (BufConsumer.drain init 0 cap feed fuel c).1 (refDrain spec fuel h).1 := by
  induction fuel generalizing c h with
  | zero => exact ⟨rfl, hrel⟩
  | succ fuel ih =>
    have hnext := hrel.next_none (feed := feed) R hcap
    rw [BufConsumer.drain, refDrain_succ]
    cases hb : h.isEmpty with
    | true =>
      obtain ⟨c', hc', hrel'⟩ := hnext.1 (Or.inl (List.isEmpty_iff.mp hb))
      rw [hc', ← List.isEmpty_iff.mp hb]; exact ⟨rfl, hrel'⟩
    | false =>
      cases hs : (spec h).out with
      | none =>
        obtain ⟨c', hc', hrel'⟩ := hnext.1 (Or.inr (SRes.out_eq_none.mp hs))
        rw [hc']; exact ⟨rfl, hrel'⟩
      | some x =>
        obtain ⟨c', hc', hrel', _⟩ := hnext.2 (List.isEmpty_eq_false_iff.mp hb) x.1 x.2 hs
        rw [hc']
        exact ⟨congrArg (x.1 :: ·) (ih c' x.2 hrel').1, (ih c' x.2 hrel').2⟩

/-- the buffer `get_write_buffer()` works on has the capacity -/
theorem BufConsumer.alloc_length {b : Bytes} (hb : b = [] ∨ b.length = cap) :
    (if b.isEmpty then List.replicate cap (0 : UInt8) else b).length = cap := by
  cases b with
  | nil => exact List.length_replicate
  | cons x xs => exact hb.resolve_left nofun

theorem BufConsumer.prepare_of_fr {start0 : Nat} (hfr : c.fr = some s) (hne : c.buffer.isEmpty = false) :
    BufConsumer.prepare init start0 cap c = c := by
  obtain ⟨b, st, w, f, cr⟩ := c
  dsimp only at hfr hne
  subst hfr
  simp [BufConsumer.prepare, hne]

theorem BufConsumer.prepare_active (R : BRefines init feed acc spec Inv cap) (hcap : 0 < cap)
    (hrel : BufConsumer.Rel acc spec Inv cap c h) :
    ∃ s, BufConsumer.Active acc spec Inv cap (BufConsumer.prepare init 0 cap c) s h := by
  rcases hrel with ⟨hcr, ⟨hfr, hw, rfl, hbuf⟩ | ⟨s, hfr, hlen, hst, hfit, htake, hinv, hw0⟩⟩
  · have hacc0 : acc init = 0 := R.acc_eq init [] R.init
    refine ⟨init, ?_⟩
    unfold BufConsumer.prepare
    rw [hfr]
    exact ⟨hcr, rfl, BufConsumer.alloc_length hbuf, hacc0.symm, by rw [hacc0, hw]; exact Nat.zero_le _,
      by rw [hacc0, hw]; rfl, by rw [hacc0]; exact R.init, fun _ => Or.inl rfl⟩
  · have hne : c.buffer.isEmpty = false := by
      cases hb : c.buffer with
      | nil => rw [hb] at hlen; exact absurd hlen (Nat.ne_of_lt hcap)
      | cons x xs => rfl
    rw [BufConsumer.prepare_of_fr hfr hne]
    exact ⟨s, hcr, hfr, hlen, hst, hfit, htake, hinv, hw0⟩

/-- the transport writes `d` into the room offered: the framer stays suspended on `h`, with `h ++ d` to look at -/
theorem BufConsumer.Active.write (hA : BufConsumer.Active acc spec Inv cap c s h) {d : Bytes}
    (hfit : d.length ≤ c.room) :
    BufConsumer.Active acc spec Inv cap { c with buffer := writeAt c.buffer (c.start + c.written) d } s h ∧
    (writeAt c.buffer (c.start + c.written) d).take (acc s + (d.length + c.written)) = h ++ d := by
  have hpl : c.start + c.written ≤ c.buffer.length := by rw [hA.start, hA.len]; exact hA.fit
  have hle : c.start + c.written + d.length ≤ c.buffer.length := by
    rw [Nat.add_comm]; exact Nat.add_le_of_le_sub hpl hfit
  have hbefore (k : Nat) (hk : k ≤ acc s + c.written) :
      (writeAt c.buffer (c.start + c.written) d).take k = c.buffer.take k :=
    writeAt_take_before _ _ _ _ (hA.start ▸ hk) hpl
  refine ⟨⟨hA.crashed, hA.fr, (writeAt_length _ _ _ hle).trans hA.len, hA.start, hA.fit, ?_, ?_, hA.idle⟩, ?_⟩
  · exact (hbefore _ (Nat.le_refl _)).trans hA.take
  · exact (hbefore _ (Nat.le_add_right ..)).symm ▸ hA.inv
  · rw [Nat.add_comm d.length, ← Nat.add_assoc, ← hA.take, ← hA.start]
    exact writeAt_take_end _ _ _ hle

theorem BufConsumer.fill_ref (R : BRefines init feed acc spec Inv cap) (hcap : 0 < cap)
    (c : BufConsumer σ) (h d : Bytes) (hrel : BufConsumer.Rel acc spec Inv cap c h)
    (hd : d ≠ []) (hfit : d.length ≤ (BufConsumer.prepare init 0 cap c).room) :
    (BufConsumer.fill init 0 cap feed c d).2 = (refRecv spec h d).2 ∧
    BufConsumer.Rel acc spec Inv cap (BufConsumer.fill init 0 cap feed c d).1 (refRecv spec h d).1 := by
  have hdpos : 0 < d.length := List.length_pos_iff.mpr hd
  obtain ⟨s, hA⟩ := BufConsumer.prepare_active (init := init) R hcap hrel
  rw [BufConsumer.fill]
  simp only []
  generalize BufConsumer.prepare init 0 cap c = c1 at *
  rw [if_neg (Nat.ne_of_gt (Nat.lt_of_lt_of_le hdpos hfit))]
  -- the consumer after the transport wrote `d`: the bytes looked at by `next` are `h ++ d`
  obtain ⟨hA', htake⟩ := hA.write hfit
  have hna := hA'.next_out (feed := feed) R hcap (hA.room ▸ hfit) htake
  rw [refRecv_eq, if_neg (by simp [hd])]
  cases hs : (spec (h ++ d)).out with
  | none =>
    obtain ⟨c', hc', hrel'⟩ := hna.1 (Or.inr (SRes.out_eq_none.mp hs))
    rw [hc']; exact ⟨rfl, hrel'⟩
  | some x =>
    obtain ⟨c', hc', hrel', hwr⟩ := hna.2 (List.append_ne_nil_of_right_ne_nil h hd) x.1 x.2 hs
    rw [hc']
    simp only [hwr]
    have hdr := BufConsumer.drain_ref R hcap (x.2.length + 1) c' x.2 hrel'
    exact ⟨congrArg (x.1 :: ·) hdr.1, hdr.2⟩

theorem BufConsumer.runFills_cons {st : Nat} {d : Bytes} {ds : List Bytes} {r : BufConsumer σ × List Item}
    (hrun : BufConsumer.runFills init st cap feed c (d :: ds) = some r) :
    d ≠ [] ∧ d.length ≤ (BufConsumer.prepare init st cap c).room ∧
    ∃ r', BufConsumer.runFills init st cap feed (BufConsumer.fill init st cap feed c d).1 ds = some r' ∧
      r = (r'.1, (BufConsumer.fill init st cap feed c d).2 ++ r'.2) := by
  rw [BufConsumer.runFills] at hrun
  split at hrun
  · cases hrun
  · rename_i hbad
    refine ⟨fun e => hbad (Or.inl (e ▸ rfl)), Nat.le_of_not_gt fun e => hbad (Or.inr e), ?_⟩
    split at hrun
    · rename_i r' hrest
      cases hrun
      exact ⟨r', hrest, rfl⟩
    · cases hrun

theorem BufConsumer.runFills_ref (R : BRefines init feed acc spec Inv cap) (hcap : 0 < cap)
    (ds : List Bytes) (c : BufConsumer σ) (h : Bytes) (hrel : BufConsumer.Rel acc spec Inv cap c h)
    (r : BufConsumer σ × List Item) (hrun : BufConsumer.runFills init 0 cap feed c ds = some r) :
    r.2 = (refRun spec h ds).2 ∧ BufConsumer.Rel acc spec Inv cap r.1 (refRun spec h ds).1 := by
  induction ds generalizing c h r with
  | nil => cases hrun; exact ⟨rfl, hrel⟩
  | cons d ds ih =>
    obtain ⟨hd, hfit, r', hrest, rfl⟩ := BufConsumer.runFills_cons hrun
    have hf := BufConsumer.fill_ref (feed := feed) R hcap c h d hrel hd hfit
    have := ih _ _ hf.2 r' hrest
    exact ⟨by rw [refRun, hf.1, this.1], this.2⟩

theorem BufConsumer.Rel.held_need {cap : Nat} {c : BufConsumer σ} {h : Bytes}
    (hrel : BufConsumer.Rel acc spec Inv cap c h) (hw : c.written = 0) : h = [] ∨ spec h = .need := by
  rcases hrel with ⟨_, ⟨_, _, hh, _⟩ | ⟨s, _, _, _, _, _, _, hw0⟩⟩
  · exact Or.inl hh
  · exact hw0 hw

theorem BufConsumer.Rel.bounds {cap : Nat} {c : BufConsumer σ} {h : Bytes}
    (hrel : BufConsumer.Rel acc spec Inv cap c h) :
    (c.buffer.length = 0 ∨ c.buffer.length = cap) ∧ h.length ≤ cap := by
  rcases hrel with ⟨_, ⟨_, _, hh, hb⟩ | ⟨s, _, hlen, _, hfit, htake, _⟩⟩
  · exact ⟨hb.imp (congrArg List.length) id, hh ▸ Nat.zero_le _⟩
  · exact ⟨Or.inr hlen, htake ▸ Nat.le_trans (List.length_take_le ..) hfit⟩

theorem BufConsumer.Rel.new (cap : Nat) : BufConsumer.Rel acc spec Inv cap (BufConsumer.new : BufConsumer σ) [] :=
  ⟨rfl, Or.inl ⟨rfl, rfl, rfl, Or.inl rfl⟩⟩

theorem BufConsumer.runFills_eq_decodeW {ok : Bytes → Prop} (cap : Nat) (R : BRefines init feed acc spec Inv cap)
    (L : SpecLaws spec ok) (hcap : 0 < cap) (fills : List Bytes)
    (hno : AllOk ok (decodeW spec fills.flatten).2) (r : BufConsumer σ × List Item)
    (hrun : BufConsumer.runFills init 0 cap feed BufConsumer.new fills = some r) :
    r.2 = (decodeW spec fills.flatten).2 ∧ BufConsumer.Rel acc spec Inv cap r.1 (decodeW spec fills.flatten).1 := by
  have hsim := BufConsumer.runFills_ref R hcap fills BufConsumer.new [] (BufConsumer.Rel.new cap) r hrun
  rw [refRun_chunk_independent L fills [] (Or.inl rfl) hno] at hsim
  exact hsim

end EasyNet

/-
  C13 — accounting invariant of the cancel-scope machine:

      task.cancelling() = external cancel() calls + Σ over scopes of `__host_task_cancel_calls` + phantom

  (`phantom` counts executions of `task.uncancel(); task.cancel(msg)` by the delayed cancel while cancelling() was 0).
  It is preserved by every callback the loop runs and by every micro-step of the coroutine, hence holds in every
  reachable state of every program under every schedule of external cancels.  Here: the invariant `AInv` and its
  preservation by the scope operations; whole runs are in `CSAcctRun`.
-/
import EasyNet.Lemmas.CSFields
namespace EasyNet.CS

def sumCalls : List Scope → Nat
  | [] => 0
  | s :: ss => s.calls + sumCalls ss

def Acct (k : K) : Prop := k.numCancels = k.extCount + sumCalls k.scopes + k.phantom

def K.acct (k : K) : Nat × Nat × Nat × Nat := (k.numCancels, k.extCount, sumCalls k.scopes, k.phantom)

theorem Acct_of_acct_eq {k k' : K} (h : k'.acct = k.acct) (hk : Acct k) : Acct k' := by
  simp only [K.acct, Prod.mk.injEq] at h
  obtain ⟨h1, h2, h3, h4⟩ := h
  unfold Acct
  rw [h1, h2, h3, h4]
  exact hk

theorem updAt_length {α} (l : List α) (i : Nat) (g : α → α) : (updAt l i g).length = l.length := by
  induction l generalizing i with
  | nil => simp [updAt]
  | cons x xs ih => cases i <;> simp [updAt, ih]

theorem getElem?_updAt {α} (l : List α) (i j : Nat) (g : α → α) :
    (updAt l i g)[j]? = if j = i then (l[j]?).map g else l[j]? := by
  induction l generalizing i j with
  | nil => simp [updAt]
  | cons x xs ih =>
    cases i with
    | zero => cases j <;> rfl
    | succ i =>
      cases j with
      | zero => rfl
      | succ j => simp only [updAt, List.getElem?_cons_succ, ih, Nat.add_right_cancel_iff]

def scopeOf (l : List Scope) (s : Nat) : Scope := (l[s]?).getD defaultScope

theorem scope_eq (k : K) (s : Nat) : k.scope s = scopeOf k.scopes s := rfl

@[simp] theorem updScope_scopes_eq (k : K) (s : Nat) (g : Scope → Scope) :
    (k.updScope s g).scopes = updAt k.scopes s g := rfl

theorem scopeOf_invalid (l : List Scope) (j : Nat) (h : l.length ≤ j) : scopeOf l j = defaultScope := by
  simp [scopeOf, List.getElem?_eq_none h]

theorem scopeOf_valid {l : List Scope} {s : Nat} (h : scopeOf l s ≠ defaultScope) : s < l.length :=
  Nat.lt_of_not_le fun hle => h (scopeOf_invalid l s hle)

theorem scopeOf_active_valid (l : List Scope) (s : Nat) (h : (scopeOf l s).active = true) : s < l.length :=
  scopeOf_valid fun e => by rw [e] at h; cases h

theorem scopeOf_append_left (l r : List Scope) (j : Nat) (h : j < l.length) : scopeOf (l ++ r) j = scopeOf l j := by
  simp [scopeOf, List.getElem?_append_left h]

theorem scopeOf_append_singleton (l : List Scope) (x : Scope) (s : Nat) :
    scopeOf (l ++ [x]) s = if s < l.length then scopeOf l s else if s = l.length then x else defaultScope := by
  split
  · exact scopeOf_append_left _ _ _ ‹_›
  · split
    · simp [scopeOf, ‹s = l.length›]
    · exact scopeOf_invalid _ _ (by simp; omega)

theorem scopeOf_updAt (l : List Scope) (i j : Nat) (g : Scope → Scope) :
    scopeOf (updAt l i g) j = if j = i ∧ j < l.length then g (scopeOf l j) else scopeOf l j := by
  unfold scopeOf
  rw [getElem?_updAt]
  by_cases hj : j = i
  · by_cases hv : j < l.length
    · simp [hj, (hj ▸ hv : i < l.length)]
    · simp [hj, (hj ▸ hv : ¬ i < l.length)]
  · simp [hj]

theorem scopeOf_updAt_ne (l : List Scope) (i j : Nat) (g : Scope → Scope) (h : j ≠ i) :
    scopeOf (updAt l i g) j = scopeOf l j := by
  rw [scopeOf_updAt, if_neg fun c => h c.1]

theorem scopeOf_updAt_self (l : List Scope) (i : Nat) (g : Scope → Scope) (h : i < l.length) :
    scopeOf (updAt l i g) i = g (scopeOf l i) := by
  rw [scopeOf_updAt, if_pos ⟨rfl, h⟩]

theorem scopeOf_updAt_proj {α} (P : Scope → α) (l : List Scope) (i j : Nat) (g : Scope → Scope)
    (hg : ∀ x, P (g x) = P x) : P (scopeOf (updAt l i g) j) = P (scopeOf l j) := by
  rw [scopeOf_updAt]
  split
  · exact hg _
  · rfl

theorem scopeOf_updAt_active (l : List Scope) (i j : Nat) (g : Scope → Scope) (hg : ∀ x, (g x).active = x.active) :
    (scopeOf (updAt l i g) j).active = (scopeOf l j).active := scopeOf_updAt_proj (·.active) l i j g hg

theorem scopeOf_updAt_cancelCalled (l : List Scope) (i j : Nat) (g : Scope → Scope)
    (hg : ∀ x, (g x).cancelCalled = x.cancelCalled) :
    (scopeOf (updAt l i g) j).cancelCalled = (scopeOf l j).cancelCalled := scopeOf_updAt_proj (·.cancelCalled) l i j g hg

theorem scopeOf_updAt_calls (l : List Scope) (i j : Nat) (g : Scope → Scope) (hg : ∀ x, (g x).calls = x.calls) :
    (scopeOf (updAt l i g) j).calls = (scopeOf l j).calls := scopeOf_updAt_proj (·.calls) l i j g hg

theorem scopeOf_updAt_self_const {α} (P : Scope → α) (c : α) (l : List Scope) (i : Nat) (g : Scope → Scope)
    (hg : ∀ x, P (g x) = c) (h0 : P defaultScope = c) : P (scopeOf (updAt l i g) i) = c := by
  rw [scopeOf_updAt]
  split
  · exact hg _
  · rename_i h
    rw [scopeOf_invalid l i (Nat.le_of_not_lt fun hv => h ⟨rfl, hv⟩)]
    exact h0

theorem scope_active_valid (k : K) (s : Nat) (h : (k.scope s).active = true) : s < k.scopes.length :=
  scopeOf_active_valid _ _ h

theorem sumCalls_append (a b : List Scope) : sumCalls (a ++ b) = sumCalls a + sumCalls b := by
  induction a with
  | nil => simp [sumCalls]
  | cons x xs ih => simp [sumCalls, ih]; omega

theorem scopeOf_calls_le (l : List Scope) (i : Nat) : (scopeOf l i).calls ≤ sumCalls l := by
  induction l generalizing i with
  | nil => simp [scopeOf, defaultScope]
  | cons x xs ih =>
    cases i with
    | zero => simp [scopeOf, sumCalls]
    | succ i => have := ih i; simp only [scopeOf, List.getElem?_cons_succ, sumCalls] at this ⊢; omega

theorem sumCalls_updAt (l : List Scope) (i : Nat) (g : Scope → Scope) :
    sumCalls (updAt l i g) + (scopeOf l i).calls = sumCalls l + (scopeOf (updAt l i g) i).calls := by
  induction l generalizing i with
  | nil => rfl
  | cons x xs ih =>
    cases i with
    | zero => simp [updAt, sumCalls, scopeOf]; omega
    | succ i =>
      have := ih i
      simp only [scopeOf, updAt, sumCalls, List.getElem?_cons_succ] at this ⊢
      omega

theorem sumCalls_updAt_same (l : List Scope) (i : Nat) (g : Scope → Scope) (hg : ∀ x, (g x).calls = x.calls) :
    sumCalls (updAt l i g) = sumCalls l := by
  have := sumCalls_updAt l i g
  rw [scopeOf_updAt_calls l i i g hg] at this
  omega

theorem scope_calls_le (k : K) (s : Nat) : (k.scope s).calls ≤ sumCalls k.scopes := scopeOf_calls_le _ _

theorem scope_calls_pos_valid (k : K) (s : Nat) (h : 0 < (k.scope s).calls) : s < k.scopes.length :=
  scopeOf_valid fun e => by rw [scope_eq, e] at h; cases h

@[simp] theorem acct_push (k : K) (f : Frame) : (k.push f).acct = k.acct := by simp [K.acct, K.push]
@[simp] theorem acct_pop (k : K) : (k.pop).acct = k.acct := by simp [K.acct, K.pop]

theorem acct_updScope_same (k : K) (s : Nat) (g : Scope → Scope) (hg : ∀ x, (g x).calls = x.calls) :
    (k.updScope s g).acct = k.acct := by
  simp [K.acct, sumCalls_updAt_same _ _ _ hg]

theorem taskCancel_numCancels (k : K) (m : Msg) (hd : k.done = none) : (k.taskCancel m).numCancels = k.numCancels + 1 := by
  fun_cases K.taskCancel k m
  · rename_i h; rw [hd] at h; cases h
  all_goals simp

/-- accounting + what makes `Task.cancel()` count: an active scope is on the stack, a finished task has no frames -/
structure AInv (k : K) : Prop where
  acct : Acct k
  act : ∀ s, (scopeOf k.scopes s).active = true → s ∈ scopeIds k.frames
  fin : k.done.isSome = true → k.frames = []

theorem AInv.notDone {k : K} (h : AInv k) {s : Nat} (ha : (scopeOf k.scopes s).active = true) : k.done = none := by
  have hs := h.act s ha
  cases hd : k.done with
  | none => rfl
  | some r => rw [h.fin (by simp [hd])] at hs; cases hs

theorem AInv.of_acct {k k' : K} (h : AInv k) (ha : Acct k')
    (hact : ∀ s, (scopeOf k'.scopes s).active = (scopeOf k.scopes s).active)
    (hf : k'.frames = k.frames) (hd : k'.done = k.done) : AInv k' :=
  ⟨ha, fun s hs => by rw [hf]; exact h.act s (by rw [← hact]; exact hs),
   fun hdn => by rw [hf]; exact h.fin (by rw [← hd]; exact hdn)⟩

theorem AInv.transfer {k k' : K} (h : AInv k) (ha : k'.acct = k.acct)
    (hact : ∀ s, (scopeOf k'.scopes s).active = (scopeOf k.scopes s).active)
    (hf : k'.frames = k.frames) (hd : k'.done = k.done) : AInv k' :=
  h.of_acct (Acct_of_acct_eq ha h.acct) hact hf hd

def Same (k' k : K) : Prop := k'.acct = k.acct ∧ k'.scopes = k.scopes ∧ k'.frames = k.frames ∧ k'.done = k.done

theorem Same.rfl {k : K} : Same k k := ⟨_root_.rfl, _root_.rfl, _root_.rfl, _root_.rfl⟩

theorem Same.trans {k₁ k₂ k₃ : K} (h₁ : Same k₃ k₂) (h₂ : Same k₂ k₁) : Same k₃ k₁ :=
  ⟨h₁.1.trans h₂.1, h₁.2.1.trans h₂.2.1, h₁.2.2.1.trans h₂.2.2.1, h₁.2.2.2.trans h₂.2.2.2⟩

theorem AInv.of_same {k k' : K} (h : AInv k) (hs : Same k' k) : AInv k' :=
  h.transfer hs.1 (fun s => by rw [hs.2.1]) hs.2.2.1 hs.2.2.2

theorem AInv.of_counts {k k' : K} (h : AInv k) (hs : k'.scopes = k.scopes) (hf : k'.frames = k.frames)
    (hd : k'.done = k.done)
    (hn : k'.numCancels + k.extCount + k.phantom = k.numCancels + k'.extCount + k'.phantom) : AInv k' := by
  refine h.of_acct ?_ (fun s => by rw [hs]) hf hd
  have hA := h.acct
  unfold Acct at hA ⊢
  rw [hs]
  omega

theorem AInv.moveCalls {k k' : K} (h : AInv k) (s : Nat) (g : Scope → Scope)
    (hs : k'.scopes = updAt k.scopes s g) (ha : ∀ x, (g x).active = x.active)
    (hn : k'.numCancels + (scopeOf k.scopes s).calls = k.numCancels + (scopeOf k'.scopes s).calls)
    (he : k'.extCount = k.extCount) (hp : k'.phantom = k.phantom) (hf : k'.frames = k.frames) (hd : k'.done = k.done) :
    AInv k' := by
  refine h.of_acct ?_ (fun s' => by rw [hs]; exact scopeOf_updAt_active _ _ _ _ ha) hf hd
  have := sumCalls_updAt k.scopes s g
  have hA := h.acct
  have hle := scopeOf_calls_le k.scopes s
  unfold Acct at hA ⊢
  rw [hs] at hn ⊢
  rw [he, hp]
  omega

theorem AInv.updScope_same {k : K} (h : AInv k) (s : Nat) (g : Scope → Scope)
    (hc : ∀ x, (g x).calls = x.calls := by intro; rfl) (ha : ∀ x, (g x).active = x.active := by intro; rfl) :
    AInv (k.updScope s g) :=
  h.transfer (acct_updScope_same k s g hc) (fun s' => by simp [scopeOf_updAt_active _ _ _ _ ha]) (by simp) (by simp)

theorem AInv.cancelHandle {k : K} (h : AInv k) (x : Handle) : AInv (k.cancelHandle x) :=
  h.of_same (by simp [Same, K.acct])

theorem AInv.callSoon {k : K} (h : AInv k) (x : Handle) : AInv (k.callSoon x) :=
  h.of_same (by simp [Same, K.acct])

theorem AInv.callAt {k : K} (h : AInv k) (w : Nat) (p : Int) (x : Handle) : AInv (k.callAt w p x) :=
  h.of_same (by simp [Same, K.acct])

theorem AInv.emit {k : K} (h : AInv k) (e : Ev) : AInv (k.emit e) :=
  h.of_same (by simp [Same, K.acct])

theorem AInv.updFut {k : K} (h : AInv k) (f : Nat) (g : Fut → Fut) : AInv (k.updFut f g) :=
  h.of_same (by simp [Same, K.acct])

theorem AInv.newFut {k : K} (h : AInv k) : AInv k.newFut :=
  h.of_same (by simp [Same, K.acct])

theorem AInv.scheduleCb {k : K} (h : AInv k) (f : Nat) : AInv (k.scheduleCb f) :=
  h.of_same (by simp [Same, K.acct])

theorem AInv.futSetResult {k : K} (h : AInv k) (f : Nat) : AInv (k.futSetResult f) :=
  h.of_same (by simp [Same, K.acct])

theorem AInv.futCancel {k : K} (h : AInv k) (f : Nat) (m : Msg) : AInv (k.futCancel f m).1 :=
  h.of_same (by simp [Same, K.acct])

theorem deliver_scopeOf {α} (P : Scope → α) (hP : ∀ x c b, P { x with cancelH := b, calls := c } = P x)
    (k : K) (s : Nat) (cur : Bool) (s' : Nat) : P (scopeOf (k.deliver s cur).scopes s') = P (scopeOf k.scopes s') := by
  have h1 : ∀ b l, P (scopeOf (updAt l s (fun x => { x with cancelH := b })) s') = P (scopeOf l s') :=
    fun b l => scopeOf_updAt_proj P l s s' _ (fun x => hP x x.calls b)
  have h2 : ∀ l, P (scopeOf (updAt l s (fun x => { x with calls := x.calls + 1 })) s') = P (scopeOf l s') :=
    fun l => scopeOf_updAt_proj P l s s' _ (fun x => hP x (x.calls + 1) x.cancelH)
  fun_cases K.deliver k s cur <;> simp [h1, h2]

theorem deliver_cur_numCancels (k : K) (s : Nat) : (k.deliver s true).numCancels = k.numCancels := by
  fun_cases K.deliver k s true <;> simp_all

/-- `_check_pending_cancellation` runs in the task itself (`cur = true`), where a delivery makes no `Task.cancel()` call -/
theorem checkPendingFrom_keeps (l : List Nat) : ∀ k : K,
    (k.checkPendingFrom l).numCancels = k.numCancels ∧
    ∀ s', (scopeOf (k.checkPendingFrom l).scopes s').caught = (scopeOf k.scopes s').caught := by
  intro k
  fun_induction K.checkPendingFrom k l
  case case1 | case3 => exact ⟨rfl, fun _ => rfl⟩
  case case2 p _ _ _ => exact ⟨deliver_cur_numCancels k p, deliver_scopeOf (·.caught) (fun _ _ _ => rfl) k p true⟩
  case case4 ih => exact ih

theorem deliver_AInv (k : K) (s : Nat) (cur : Bool) (h : AInv k) : AInv (k.deliver s cur) := by
  have hmark : ∀ {k' : K}, AInv k' → AInv ((k'.updScope s (fun x => { x with cancelH := true })).callSoon (.deliver s)) :=
    fun h' => (h'.updScope_same s _).callSoon _
  fun_cases K.deliver k s cur
  case case1 => exact h
  case case2 => exact hmark h
  case case3 => exact h.updScope_same s _
  case case4 hact _ _ =>
    -- task.cancel(msg) and `__host_task_cancel_calls += 1`
    have hact' : (scopeOf k.scopes s).active = true := by simpa [scope_eq] using hact
    refine hmark (h.moveCalls s (fun x => { x with calls := x.calls + 1 }) (by simp) (fun _ => rfl) ?_ (by simp) (by simp)
      (by simp) (by simp))
    simp only [updScope_frame, updScope_scopes_eq, taskCancel_frame, taskCancel_numCancels k _ (h.notDone hact'),
      scopeOf_updAt_self _ _ _ (scopeOf_active_valid _ _ hact')]
    omega
  case case5 => exact hmark h

theorem scopeCancel_AInv (k : K) (s : Nat) (cur : Bool) (h : AInv k) : AInv (k.scopeCancel s cur) := by
  fun_cases K.scopeCancel k s cur
  · exact h
  · exact deliver_AInv _ _ _ (((h.updScope_same s _).cancelHandle _).updScope_same s _)

theorem setupTimeout_AInv (k : K) (s : Nat) (cur : Bool) (h : AInv k) : AInv (k.setupTimeout s cur) := by
  fun_cases K.setupTimeout k s cur
  · exact h
  · exact scopeCancel_AInv _ _ _ h
  · exact (h.updScope_same s _).callAt _ _ _

theorem reschedule_AInv (k : K) (s : Nat) (w : Option Nat) (cur : Bool) (h : AInv k) : AInv (k.reschedule s w cur) := by
  unfold K.reschedule
  have h1 := (((h.updScope_same s (fun x => { x with deadline := w })).cancelHandle
    (.timeoutCancel s)).updScope_same s (fun x => { x with timeoutH := false }))
  split
  · exact setupTimeout_AInv _ _ _ h1
  · exact h1

theorem checkPendingFrom_AInv (k : K) (l : List Nat) (h : AInv k) : AInv (k.checkPendingFrom l) := by
  fun_induction K.checkPendingFrom k l
  · exact h
  · exact deliver_AInv _ _ _ h
  · exact h
  · rename_i ih; exact ih

theorem checkPending_AInv (k : K) (h : AInv k) : AInv k.checkPending := checkPendingFrom_AInv _ _ h

theorem scopeEnter_AInv (k : K) (sid : Nat) (to : Bool) (delay : Option Nat) (pre : Bool) (h : AInv k)
    (hnd : k.done = none) : AInv (k.scopeEnter sid to delay pre) := by
  have base : AInv { k with
      scopes := k.scopes ++ [(⟨sid, true, pre, false, delay.map (k.now + ·), false, false, k.numCancels, 0⟩ : Scope)],
      frames := .scopeF k.scopes.length to :: k.frames } := by
    refine ⟨?_, fun s hs => ?_, fun hd => ?_⟩
    · have := h.acct
      unfold Acct at *
      simp only [sumCalls_append, sumCalls]
      omega
    · simp only [scopeIds, List.mem_cons]
      by_cases hlt : s < k.scopes.length
      · exact Or.inr (h.act s (by rwa [scopeOf_append_left _ _ _ hlt] at hs))
      · have := scopeOf_active_valid _ _ hs
        simp only [List.length_append, List.length_singleton] at this
        exact Or.inl (by omega)
    · simp [hnd] at hd
  unfold K.scopeEnter
  split
  · exact deliver_AInv _ _ _ base
  · exact setupTimeout_AInv _ _ _ base

theorem AInv.uncancelStep {k : K} (h : AInv k) (s : Nat) (hc : 0 < (scopeOf k.scopes s).calls) :
    AInv ((k.updScope s (fun x => { x with calls := x.calls - 1 })).taskUncancel) := by
  have h1 : 0 < k.numCancels := by
    have hle := scopeOf_calls_le k.scopes s
    have hA := h.acct
    unfold Acct at hA
    omega
  refine h.moveCalls s (fun x => { x with calls := x.calls - 1 }) rfl (fun _ => rfl) ?_ rfl rfl rfl rfl
  show k.numCancels - 1 + _ = _ + (scopeOf (updAt k.scopes s _) s).calls
  rw [scopeOf_updAt_self _ _ _ (scopeOf_valid fun e => by rw [e] at hc; cases hc)]
  show _ = _ + ((scopeOf k.scopes s).calls - 1)
  omega

theorem uncancelLoop_AInv (s : Nat) (m : Msg) (n : Nat) :
    ∀ k : K, AInv k → (scopeOf k.scopes s).calls = n →
      AInv (k.uncancelLoop s m n).1 ∧
      ((scopeOf (k.uncancelLoop s m n).1.scopes s).calls = 0 ∨
        ((k.uncancelLoop s m n).2 = true ∧ (k.uncancelLoop s m n).1.numCancels ≤ (scopeOf k.scopes s).base)) := by
  intro k h hc
  fun_induction K.uncancelLoop k s m n
  case case1 => exact ⟨h, Or.inl hc⟩
  case case2 k n hle => exact ⟨h.uncancelStep s (by rw [hc]; exact Nat.succ_pos n), Or.inr ⟨rfl, hle⟩⟩
  case case3 k n _ ih =>
    have hs1 : scopeOf ((k.updScope s (fun x => { x with calls := x.calls - 1 })).taskUncancel).scopes s =
        { scopeOf k.scopes s with calls := (scopeOf k.scopes s).calls - 1 } :=
      scopeOf_updAt_self _ _ _ (scopeOf_valid fun e => by rw [e] at hc; cases hc)
    have := ih (h.uncancelStep s (by rw [hc]; exact Nat.succ_pos n)) (by rw [hs1, hc]; rfl)
    rwa [hs1] at this

theorem undoRemaining_AInv (k : K) (s : Nat) (h : AInv k) : AInv (k.undoRemaining s) := by
  have hle := scopeOf_calls_le k.scopes s
  have hA := h.acct
  unfold Acct at hA
  refine h.moveCalls s (fun x => { x with calls := 0 }) rfl (fun _ => rfl) ?_ rfl rfl rfl rfl
  show k.numCancels - (scopeOf k.scopes s).calls + _ = _ + (scopeOf (updAt k.scopes s _) s).calls
  rw [scopeOf_updAt_self_const (·.calls) 0 _ _ _ (fun _ => rfl) rfl]
  omega

theorem exitCatch_AInv (k : K) (s : Nat) (e : Option Exc) (h : AInv k) : AInv (k.exitCatch s e) := by
  fun_cases K.exitCatch k s e
  · exact (uncancelLoop_AInv s _ _ k h rfl).1.updScope_same s _
  · exact h.updScope_same s _
  · exact h

theorem dropOwnDelayed_AInv (k : K) (s : Nat) (h : AInv k) : AInv (k.dropOwnDelayed s) :=
  h.of_same (by simp [Same, K.acct])

theorem exitCancelled_AInv (k : K) (s : Nat) (e : Option Exc) (h : AInv k) : AInv (k.exitCancelled s e) := by
  fun_cases K.exitCancelled k s e
  · exact dropOwnDelayed_AInv _ _ (undoRemaining_AInv _ _ (exitCatch_AInv _ _ _ h))
  · exact dropOwnDelayed_AInv _ _ (exitCatch_AInv _ _ _ h)

/-- `__exit__` runs after the `with` frame of `s` was popped and deactivates `s` first, so every scope that is still
    active is on the remaining stack -/
theorem scopeExit_AInv (k : K) (s : Nat) (to : Bool) (e : Option Exc) (fs : List Frame) (h : AInv k) (hnd : k.done = none)
    (hk : k.frames = .scopeF s to :: fs) : AInv (k.pop.scopeExit s e) := by
  have base : AInv (((k.pop.cancelHandle (.timeoutCancel s)).cancelHandle (.deliver s)).updScope s
      (fun x => { x with active := false, timeoutH := false, cancelH := false })) := by
    refine ⟨Acct_of_acct_eq (by rw [acct_updScope_same _ _ _ (by intro; rfl)]; simp [K.acct]) h.acct,
      fun s' hs' => ?_, fun hd => by simp [hnd] at hd⟩
    simp only [updScope_scopes_eq, cancelHandle_frame, pop_frame] at hs'
    have hss : s' ≠ s := fun hss => by
      rw [hss, scopeOf_updAt_self_const (·.active) false _ _ _ (fun _ => rfl) rfl] at hs'
      cases hs'
    have := h.act s' (by rwa [scopeOf_updAt_ne _ _ _ _ hss] at hs')
    rw [hk] at this
    simpa [K.pop, hk, scopeIds, hss] using this
  unfold K.scopeExit
  split
  · exact checkPending_AInv _ (exitCancelled_AInv _ _ _ base)
  · exact checkPending_AInv _ base

end EasyNet.CS

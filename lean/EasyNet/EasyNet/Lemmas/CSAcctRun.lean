/-
  C13 — the accounting invariant along whole runs: coroutine micro-steps, task steps, callbacks, turns.  The
  induction over the loop (`runTurns_keeps`) is for any predicate; the interruption invariant uses it too.
-/
import EasyNet.Lemmas.CSAcct
namespace EasyNet.CS

theorem AInv.reframe {k k' : K} {fs : List Frame} (h : AInv k) (hk : Same k' k) (hs : scopeIds fs = scopeIds k.frames)
    (hfin : k.done.isSome = true → fs = []) : AInv { k' with frames := fs } :=
  ⟨Acct_of_acct_eq hk.1 h.acct, fun s ha => by show s ∈ scopeIds fs; rw [hs]; exact h.act s (by rw [← hk.2.1]; exact ha),
   fun hd => hfin (by rw [← hk.2.2.2]; exact hd)⟩

theorem AInv.setFrames {k : K} (h : AInv k) (hnd : k.done = none) (fs : List Frame)
    (hs : scopeIds fs = scopeIds k.frames) : AInv { k with frames := fs } :=
  h.reframe .rfl hs fun hd => by simp [hnd] at hd

/-- `hs` holds by `rfl` for every frame that is not a `with` frame -/
theorem AInv.push {k : K} (h : AInv k) (hnd : k.done = none) (fr : Frame)
    (hs : scopeIds (fr :: k.frames) = scopeIds k.frames) : AInv (k.push fr) :=
  h.setFrames hnd _ hs

theorem AInv.pop {k : K} (h : AInv k) (hnd : k.done = none) {fr : Frame} {fs : List Frame}
    (hk : k.frames = fr :: fs) (hs : scopeIds (fr :: fs) = scopeIds fs) : AInv k.pop :=
  h.setFrames hnd (k.frames.drop 1) (by rw [hk]; exact hs.symm)

theorem AInv.setBad {k : K} (h : AInv k) (b : Bool) : AInv { k with bad := b } := h.of_same .rfl

theorem scopeIds_cons_congr (fr : Frame) {a b : List Frame} (h : scopeIds a = scopeIds b) :
    scopeIds (fr :: a) = scopeIds (fr :: b) := by
  cases fr <;> simp [scopeIds, h]

theorem scopeIds_append (a b : List Frame) : scopeIds (a ++ b) = scopeIds a ++ scopeIds b := by
  induction a with
  | nil => rfl
  | cons fr fs ih => cases fr <;> simp [scopeIds, ih]

theorem scopeIds_reverse (l : List Frame) : scopeIds l.reverse = (scopeIds l).reverse := by
  induction l with
  | nil => rfl
  | cons fr fs ih => cases fr <;> simp [scopeIds, scopeIds_append, ih]

def Crashed (k : K) : Prop := k.done = some .crash

def Good (k : K) : Prop := Crashed k ∨ AInv k

def Kept (k' k : K) : Prop := Crashed k' ∨ Same k' k

theorem Kept.trans {k₁ k₂ k₃ : K} (h₁ : Kept k₃ k₂) (h₂ : Kept k₂ k₁) : Kept k₃ k₁ :=
  h₁.elim Or.inl fun s₁ => h₂.imp (fun c => s₁.2.2.2.trans c) s₁.trans

theorem Good.kept {k k' : K} (h : Good k) (hk : Kept k' k) : Good k' :=
  hk.elim Or.inl fun hs => h.imp (fun c => hs.2.2.2.trans c) (·.of_same hs)

theorem Good.of_same {k k' : K} (h : Good k) (hs : Same k' k) : Good k' := h.kept (.inr hs)

theorem Good.reframe {k k' : K} {fs : List Frame} (h : Good k) (hk : Kept k' k) (hs : scopeIds fs = scopeIds k.frames)
    (hfin : k.frames = [] → fs = []) : Good { k' with frames := fs } :=
  hk.elim Or.inl fun hk =>
    h.imp (fun c => hk.2.2.2.trans c) fun hA => hA.reframe hk hs fun hd => hfin (hA.fin hd)

theorem Good.live {k : K} (h : Good k) (hnd : k.done = none) : AInv k :=
  h.resolve_left fun hc => by rw [Crashed, hnd] at hc; cases hc

theorem reschedDelayed_kept (k : K) (m : Msg) : Kept (k.reschedDelayed m) k := by
  fun_cases K.reschedDelayed k m
  · exact Or.inl rfl
  · exact Or.inr (by simp [Same, K.acct])

theorem reschedOpt_kept (k : K) (o : Option Msg) : Kept (k.reschedOpt o) k := by
  cases o with
  | none => exact Or.inr .rfl
  | some m => exact reschedDelayed_kept k m

theorem startStmt_AInv (k : K) (st : Stmt) (h : AInv k) (hnd : k.done = none) : AInv (k.startStmt st).1 := by
  fun_cases K.startStmt k st
  case case1 | case3 | case4 => exact (h.emit _).push hnd _ rfl
  case case2 => exact (((h.emit _).newFut).callAt _ _ _).push hnd _ rfl
  case case5 => exact (scopeCancel_AInv _ _ _ h).emit _
  case case7 => exact (reschedule_AInv _ _ _ _ h).emit _
  case case6 | case8 => exact h
  case case9 => exact ((scopeEnter_AInv k _ _ _ _ h hnd).emit _).push (by simpa using hnd) _ rfl
  case case10 => exact ((h.emit _).push hnd _ rfl).push hnd _ rfl
  case case11 => exact (h.push hnd _ rfl).push hnd _ rfl

theorem startStmt_ne_finished (k : K) (st : Stmt) (e : Option Exc) : (k.startStmt st).2 ≠ .finished e := by
  fun_cases K.startStmt k st <;> exact fun h => nomatch h

theorem endScope_AInv (k : K) (s : Nat) (to : Bool) (e : Option Exc) (fs : List Frame) (h : AInv k) (hnd : k.done = none)
    (hk : k.frames = .scopeF s to :: fs) : AInv (k.endScope s to e).1 :=
  (scopeExit_AInv k s to e fs h hnd hk).emit _

theorem nextOf_ne_finished (e : Option Exc) (e' : Option Exc) : nextOf e ≠ .finished e' := by
  cases e <;> exact nofun

theorem endShield_AInv (k : K) (id : Nat) (yl : Bool) (e : Option Exc) (fr : Frame) (fs : List Frame) (h : AInv k)
    (hnd : k.done = none) (hk : k.frames = fr :: fs) (hs : scopeIds (fr :: fs) = scopeIds fs) :
    AInv (k.endShield id yl e).1 := by
  unfold K.endShield
  split
  · exact (checkPending_AInv _ (h.pop hnd hk hs)).emit _
  · exact (h.pop hnd hk hs).emit _

theorem endShield_ne_finished (k : K) (id : Nat) (yl : Bool) (e e' : Option Exc) :
    (k.endShield id yl e).2 ≠ .finished e' := by
  unfold K.endShield
  split <;> exact nextOf_ne_finished e e'

def StepGood (k : K) (r : K × Next) : Prop := Good r.1 ∧ ∀ e, r.2 = .finished e → r.1 = k ∧ k.frames = []

theorem StepGood.of_ne {k : K} {r : K × Next} (h : AInv r.1) (hn : ∀ e, r.2 ≠ .finished e) : StepGood k r :=
  ⟨Or.inr h, fun e he => absurd he (hn e)⟩

theorem StepGood.cont {k k' : K} {c : Ctl} (h : AInv k') : StepGood k (k', .cont c) := .of_ne h fun _ h => nomatch h

theorem StepGood.finished {k : K} {e : Option Exc} (h : AInv k) (hk : k.frames = []) : StepGood k (k, .finished e) :=
  ⟨Or.inr h, fun _ _ => ⟨rfl, hk⟩⟩

theorem coStep_Good (k : K) (c : Ctl) (h : Good k) (hnd : k.done = none) : StepGood k (k.coStep c) := by
  have h := h.live hnd
  fun_cases K.coStep k c
  case case1 hk | case2 hk | case3 hk | case4 hk => exact .finished h hk
  case case6 s rest fs hk =>
    exact .of_ne (startStmt_AInv _ s (h.setFrames hnd (.seq rest :: fs) (by rw [hk]; rfl)) hnd) (startStmt_ne_finished _ s)
  case case8 hk | case9 hk => exact .of_ne (endScope_AInv k _ _ _ _ h hnd hk) (nextOf_ne_finished _)
  case case13 hk | case14 hk =>
    exact .of_ne (endShield_AInv k _ _ _ _ _ h hnd hk rfl) (endShield_ne_finished _ _ _ _)
  -- the top frame is left: the end of a block, of a `try`, of a blocking operation
  case case5 hk | case7 hk | case10 hk | case12 hk | case23 hk | case24 hk => exact .cont (h.pop hnd hk rfl)
  case case11 hk | case18 hk | case19 hk => exact .cont ((h.pop hnd hk rfl).emit _)
  case case15 hk => exact .cont ((((h.pop hnd hk rfl).cancelHandle _).emit _).setBad _)
  case case16 hk => exact .cont (((h.pop hnd hk rfl).cancelHandle _).emit _)
  case case17 hk => exact .cont (((h.pop hnd hk rfl).emit _).setBad _)
  case case20 m _ _ _ hk =>
    -- `cancel_shielded_coro_yield` re-issues the cancellation it swallowed: the one step that can crash
    exact ⟨(Good.kept (.inr (h.pop hnd hk rfl)) (reschedDelayed_kept _ m)).of_same (by simp [Same, K.acct]),
      fun _ h => nomatch h⟩
  case case21 | case22 => exact .cont h

theorem shieldWrap_kept {id : Nat} {y : Yield} {k' k : K} {fs' fs : List Frame}
    (h : scopeIds fs' = scopeIds fs ∧ Kept k' k) :
    scopeIds ((shieldWrap id y k').1 :: fs') = scopeIds fs ∧ Kept (shieldWrap id y k').2.2 k := by
  unfold shieldWrap
  split
  · exact h
  · exact ⟨h.1, Kept.trans (.inr (by simp [Same, K.acct])) h.2⟩

theorem bubble_spec (fs : List Frame) (y : Yield) (k : K) :
    scopeIds (bubble fs y k).1 = scopeIds fs ∧ Kept (bubble fs y k).2.2 k := by
  fun_induction bubble fs y k
  case case1 => exact ⟨rfl, .inr .rfl⟩
  case case2 id _ _ _ _ y k _ _ ih =>
    have hw := shieldWrap_kept (id := id) (y := y) ⟨ih.1, (.inr .rfl : Kept k k)⟩
    exact ⟨hw.1, ih.2.trans hw.2⟩
  case case3 fr _ _ _ _ _ ih => exact ⟨scopeIds_cons_congr fr ih.1, ih.2⟩

theorem resumeOuter_spec (fs : List Frame) (sg : Signal) (k : K) :
    scopeIds (resumeOuter fs sg k).1 = scopeIds fs ∧ Kept (resumeOuter fs sg k).2.2 k := by
  fun_induction resumeOuter fs sg k
  case case1 => exact ⟨rfl, .inr .rfl⟩
  case case2 ih | case7 ih => exact ⟨ih.1, ih.2.trans (reschedOpt_kept _ _)⟩
  case case3 ih | case8 ih => exact shieldWrap_kept ⟨ih.1, ih.2.trans (reschedOpt_kept _ _)⟩
  case case4 => exact ⟨rfl, .inr (by simp [Same, K.acct])⟩
  case case5 ih => exact ih
  case case6 ih => exact shieldWrap_kept ih
  case case9 fr _ _ _ _ _ ih => exact ⟨scopeIds_cons_congr fr ih.1, ih.2⟩

theorem taskYield_Good (k : K) (y : Yield) (h : Good k) : Good (k.taskYield y) := h.of_same (by simp [Same, K.acct])

theorem taskFinish_AInv (k : K) (e : Option Exc) (h : AInv k) (hf : k.frames = []) : AInv (k.taskFinish e) :=
  ⟨Acct_of_acct_eq (by simp [K.acct]) h.acct, fun s hs => by simpa using h.act s (by simpa using hs),
   fun _ => by simpa using hf⟩

theorem exec_Good (fuel : Nat) (k : K) (c : Ctl) (h : Good k) : Good (K.exec fuel k c) := by
  fun_induction K.exec fuel k c
  case case1 => exact .inl rfl
  case case2 => exact h
  case case3 hd _ _ heq ih => exact ih (heq ▸ coStep_Good _ _ h (by simpa using hd)).1
  case case4 hd k1 y heq _ =>
    have hk1 : Good k1 := (heq ▸ coStep_Good _ _ h (by simpa using hd)).1
    obtain ⟨b1, b2⟩ := bubble_spec k1.frames y k1
    refine taskYield_Good _ _ (hk1.reframe b2 b1 fun e => ?_)
    show (bubble k1.frames y k1).1 = []
    rw [e]
    rfl
  case case5 k _ hd _ e heq =>
    have hnd : k.done = none := by simpa using hd
    obtain ⟨rfl, hfr⟩ := (heq ▸ coStep_Good _ _ h hnd).2 e rfl
    exact .inr (taskFinish_AInv _ _ (h.live hnd) hfr)

theorem afterDrivers_Good (k : K) (sg0 : Signal) (h : Good k) : Good (k.afterDrivers sg0) := by
  obtain ⟨r1, r2⟩ := resumeOuter_spec k.frames.reverse (k.wakeSignal sg0) { k with mustCancel := false, waiter := none }
  refine (h.of_same ⟨rfl, rfl, rfl, rfl⟩).reframe r2 ?_ fun (e : k.frames = []) => by rw [K.resumed, e]; rfl
  rw [scopeIds_reverse, K.resumed, r1, scopeIds_reverse, List.reverse_reverse]

theorem taskStep_Good (k : K) (sg0 : Signal) (h : Good k) : Good (k.taskStep sg0) := by
  unfold K.taskStep
  split
  · exact h
  · split
    · exact taskYield_Good _ _ (afterDrivers_Good k sg0 h)
    · exact exec_Good _ _ _ (afterDrivers_Good k sg0 h)

theorem runHandleCore_delayedCancel (k : K) (m : Msg) :
    k.runHandleCore (.delayedCancel m) =
      if k.done.isSome = true then k
      else ({ k.taskUncancel with phantom := k.phantom + (if k.numCancels = 0 then 1 else 0) } : K).taskCancel m := rfl

theorem runHandleCore_ext (k : K) :
    k.runHandleCore .ext =
      if (k.emit (.ext k.now k.done.isSome)).done.isSome = true then k.emit (.ext k.now k.done.isSome)
      else { (k.emit (.ext k.now k.done.isSome)).taskCancel none with
        extCount := (k.emit (.ext k.now k.done.isSome)).extCount + 1 } := rfl

theorem AInv.taskCancel_of {k X : K} (h : AInv k) (m : Msg) (hd : X.done = none) (hs : X.scopes = k.scopes)
    (hf : X.frames = k.frames) (hdd : X.done = k.done)
    (hn : X.numCancels + 1 + k.extCount + k.phantom = k.numCancels + X.extCount + X.phantom) : AInv (X.taskCancel m) :=
  h.of_counts (by simp [hs]) (by simp [hf]) (by simp [hdd])
    (by rw [taskCancel_numCancels _ _ hd]; simp only [taskCancel_frame]; exact hn)

theorem delayedCancel_AInv (k : K) (m : Msg) (h : AInv k) (hnd : k.done = none) :
    AInv (({ k.taskUncancel with phantom := k.phantom + (if k.numCancels = 0 then 1 else 0) } : K).taskCancel m) := by
  refine h.taskCancel_of m hnd rfl rfl rfl ?_
  show k.numCancels - 1 + 1 + k.extCount + k.phantom =
    k.numCancels + k.extCount + (k.phantom + if k.numCancels = 0 then 1 else 0)
  by_cases h0 : k.numCancels = 0
  · rw [if_pos h0, h0]
    omega
  · rw [if_neg h0, Nat.sub_add_cancel (Nat.pos_of_ne_zero h0)]
    rfl

theorem ext_AInv (k : K) (e : Ev) (h : AInv k) (hnd : k.done = none) :
    AInv { (k.emit e).taskCancel none with extCount := (k.emit e).extCount + 1 } := by
  refine h.of_counts (by simp) (by simp) (by simp) ?_
  show ((k.emit e).taskCancel none).numCancels + k.extCount + k.phantom =
    k.numCancels + (k.extCount + 1) + ((k.emit e).taskCancel none).phantom
  rw [taskCancel_numCancels (k.emit e) none hnd]
  simp only [taskCancel_frame, emit_frame]
  omega

theorem runHandleCore_Good (k : K) (x : Handle) (h : AInv k) : Good (k.runHandleCore x) := by
  cases x with
  | step => exact taskStep_Good _ _ (.inr h)
  | wakeup f =>
    unfold K.runHandleCore
    dsimp only
    split <;> exact taskStep_Good _ _ (.inr h)
  | deliver s => exact .inr (deliver_AInv _ _ _ h)
  | timeoutCancel s => exact .inr (scopeCancel_AInv _ _ _ (h.updScope_same s _))
  | sleepDone f => exact .inr (h.futSetResult f)
  | delayedCancel m =>
    rw [runHandleCore_delayedCancel]
    split
    · exact .inr h
    · rename_i hd
      exact .inr (delayedCancel_AInv k m h (by simpa using hd))
  | delayedPop => exact .inr (h.of_same ⟨rfl, rfl, rfl, rfl⟩)
  | innerDone f o =>
    unfold K.runHandleCore
    dsimp only
    split
    · exact .inr h
    · split
      · exact .inr (h.futCancel o none)
      · exact .inr (h.futSetResult o)
  | ext =>
    rw [runHandleCore_ext]
    split
    · exact .inr (h.emit _)
    · rename_i hd
      exact .inr (ext_AInv k _ h (by simpa using hd))

theorem runHandle_Good (k : K) (x : Handle) (h : Good k) : Good (k.runHandle x) := by
  unfold K.runHandle
  split
  · exact h
  · rename_i hc
    exact runHandleCore_Good _ _ (h.resolve_left hc)

section loop
variable {P : K → Prop}
  (hH : ∀ k x rest, k.batch = x :: rest → P k → P (K.runHandle { k with batch := rest } x))
include hH

theorem runBatch_keeps (n : Nat) (k : K) (h : P k) : P (K.runBatch n k) := by
  fun_induction K.runBatch n k
  case case1 => exact h
  case case2 => exact h
  case case3 hb ih => exact ih (hH _ _ _ hb h)

variable (hB : ∀ k, P k → P k.beginTurn) (hE : ∀ k, P k → P k.endTurn)
include hB hE

theorem runTurns_keeps (n : Nat) (k : K) (h : P k) : P (K.runTurns n k).1 := by
  fun_induction K.runTurns n k
  case case1 => exact h
  case case2 => exact h
  case case3 => exact h
  case case4 ht ih =>
    refine ih ?_
    unfold K.turn at ht
    split at ht
    · cases ht
    · cases ht
      exact hE _ (runBatch_keeps hH _ _ (hB _ h))

end loop

theorem runTurns_Good (n : Nat) (k : K) (h : Good k) : Good (K.runTurns n k).1 :=
  runTurns_keeps (fun _ _ _ _ h => runHandle_Good _ _ (h.of_same ⟨rfl, rfl, rfl, rfl⟩))
    (fun _ h => h.of_same ⟨rfl, rfl, rfl, rfl⟩) (fun _ h => h.of_same ⟨rfl, rfl, rfl, rfl⟩) n k h

theorem addExt_keeps {P : K → Prop} (hC : ∀ k t p, P k → P (k.callAt t p .ext)) (extLast : Bool) (ext : List Nat) :
    ∀ k : K, P k → P (addExt extLast ext k) := by
  induction ext with
  | nil => intro k h; exact h
  | cons t ts ih => intro k h; exact ih _ (hC k t _ h)

theorem init_Good (prog : List Stmt) (ext : List Nat) (extLast fix : Bool) : Good (K.init prog ext extLast fix) := by
  unfold K.init
  apply addExt_keeps fun _ _ _ h => Good.of_same h (by simp [Same, K.acct])
  refine Or.inr (AInv.callSoon ⟨by simp [Acct, sumCalls], fun s hs => ?_, fun hd => by simp at hd⟩ _)
  simp [scopeOf, defaultScope] at hs

/-- every state reached by any program under any schedule of external cancels balances its cancel requests, unless
    the run crashed -/
theorem run_Good (prog : List Stmt) (ext : List Nat) (extLast fix : Bool) (n : Nat) :
    Good (run prog ext extLast fix n).1 :=
  runTurns_Good _ _ (init_Good _ _ _ _)

end EasyNet.CS

/-
  C13 — the frame of each operation of the model: the fields of the machine state it leaves alone, as one conjunction
  per operation (named where several operations share it).  `simp` uses every conjunct as a rewrite rule.
-/
import EasyNet.Model.CancelScope
namespace EasyNet.CS

abbrev SameFixed (k' k : K) : Prop :=
  k'.now = k.now ∧ k'.stepFuel = k.stepFuel ∧ k'.fix = k.fix ∧ k'.extCount = k.extCount ∧ k'.phantom = k.phantom ∧
    k'.bad = k.bad

@[simp] theorem emit_frame (k : K) (e : Ev) :
    let k' := k.emit e
    SameFixed k' k ∧ k'.ready = k.ready ∧ k'.batch = k.batch ∧ k'.timers = k.timers ∧ k'.futs = k.futs ∧
    k'.mustCancel = k.mustCancel ∧ k'.cancelMsg = k.cancelMsg ∧ k'.numCancels = k.numCancels ∧
    k'.waiter = k.waiter ∧ k'.done = k.done ∧ k'.frames = k.frames ∧ k'.scopes = k.scopes ∧ k'.delayed = k.delayed := by
  simp [SameFixed, K.emit]

@[simp] theorem callSoon_frame (k : K) (h : Handle) :
    let k' := k.callSoon h
    SameFixed k' k ∧ k'.batch = k.batch ∧ k'.timers = k.timers ∧ k'.futs = k.futs ∧ k'.mustCancel = k.mustCancel ∧
    k'.cancelMsg = k.cancelMsg ∧ k'.numCancels = k.numCancels ∧ k'.waiter = k.waiter ∧ k'.done = k.done ∧
    k'.frames = k.frames ∧ k'.scopes = k.scopes ∧ k'.delayed = k.delayed ∧ k'.out = k.out := by
  simp [SameFixed, K.callSoon]

@[simp] theorem callAt_frame (k : K) (w : Nat) (p : Int) (h : Handle) :
    let k' := k.callAt w p h
    SameFixed k' k ∧ k'.ready = k.ready ∧ k'.batch = k.batch ∧ k'.futs = k.futs ∧ k'.mustCancel = k.mustCancel ∧
    k'.cancelMsg = k.cancelMsg ∧ k'.numCancels = k.numCancels ∧ k'.waiter = k.waiter ∧ k'.done = k.done ∧
    k'.frames = k.frames ∧ k'.scopes = k.scopes ∧ k'.delayed = k.delayed ∧ k'.out = k.out := by
  simp [SameFixed, K.callAt]

@[simp] theorem cancelHandle_frame (k : K) (h : Handle) :
    let k' := k.cancelHandle h
    SameFixed k' k ∧ k'.futs = k.futs ∧ k'.mustCancel = k.mustCancel ∧ k'.cancelMsg = k.cancelMsg ∧
    k'.numCancels = k.numCancels ∧ k'.waiter = k.waiter ∧ k'.done = k.done ∧ k'.frames = k.frames ∧
    k'.scopes = k.scopes ∧ k'.delayed = k.delayed ∧ k'.out = k.out := by
  simp [SameFixed, K.cancelHandle]

abbrev SameButFuts (k' k : K) : Prop :=
  SameFixed k' k ∧ k'.ready = k.ready ∧ k'.batch = k.batch ∧ k'.timers = k.timers ∧ k'.mustCancel = k.mustCancel ∧
  k'.cancelMsg = k.cancelMsg ∧ k'.numCancels = k.numCancels ∧ k'.waiter = k.waiter ∧ k'.done = k.done ∧
  k'.frames = k.frames ∧ k'.scopes = k.scopes ∧ k'.delayed = k.delayed ∧ k'.out = k.out

@[simp] theorem updFut_frame (k : K) (f : Nat) (g : Fut → Fut) : SameButFuts (k.updFut f g) k := by
  simp [SameButFuts, SameFixed, K.updFut]

theorem updFut_ready (k : K) (f : Nat) (g : Fut → Fut) : (k.updFut f g).ready = k.ready := by simp

@[simp] theorem newFut_frame (k : K) : SameButFuts k.newFut k := by
  simp [SameButFuts, SameFixed, K.newFut]

abbrev SameButFrames (k' k : K) : Prop :=
  SameFixed k' k ∧ k'.ready = k.ready ∧ k'.batch = k.batch ∧ k'.timers = k.timers ∧ k'.futs = k.futs ∧
  k'.mustCancel = k.mustCancel ∧ k'.cancelMsg = k.cancelMsg ∧ k'.numCancels = k.numCancels ∧
  k'.waiter = k.waiter ∧ k'.done = k.done ∧ k'.scopes = k.scopes ∧ k'.delayed = k.delayed ∧ k'.out = k.out

@[simp] theorem push_frame (k : K) (f : Frame) : SameButFrames (k.push f) k := by
  simp [SameButFrames, SameFixed, K.push]

theorem push_now (k : K) (f : Frame) : (k.push f).now = k.now := by simp
theorem push_ready (k : K) (f : Frame) : (k.push f).ready = k.ready := by simp
theorem push_batch (k : K) (f : Frame) : (k.push f).batch = k.batch := by simp
theorem push_timers (k : K) (f : Frame) : (k.push f).timers = k.timers := by simp
theorem push_mustCancel (k : K) (f : Frame) : (k.push f).mustCancel = k.mustCancel := by simp
theorem push_cancelMsg (k : K) (f : Frame) : (k.push f).cancelMsg = k.cancelMsg := by simp
theorem push_numCancels (k : K) (f : Frame) : (k.push f).numCancels = k.numCancels := by simp
theorem push_waiter (k : K) (f : Frame) : (k.push f).waiter = k.waiter := by simp
theorem push_delayed (k : K) (f : Frame) : (k.push f).delayed = k.delayed := by simp
theorem push_stepFuel (k : K) (f : Frame) : (k.push f).stepFuel = k.stepFuel := by simp
theorem push_fix (k : K) (f : Frame) : (k.push f).fix = k.fix := by simp
theorem push_extCount (k : K) (f : Frame) : (k.push f).extCount = k.extCount := by simp
theorem push_phantom (k : K) (f : Frame) : (k.push f).phantom = k.phantom := by simp
theorem push_bad (k : K) (f : Frame) : (k.push f).bad = k.bad := by simp
theorem push_out (k : K) (f : Frame) : (k.push f).out = k.out := by simp

@[simp] theorem pop_frame (k : K) : SameButFrames k.pop k := by
  simp [SameButFrames, SameFixed, K.pop]

theorem pop_now (k : K) : (k.pop).now = k.now := by simp
theorem pop_ready (k : K) : (k.pop).ready = k.ready := by simp
theorem pop_batch (k : K) : (k.pop).batch = k.batch := by simp
theorem pop_timers (k : K) : (k.pop).timers = k.timers := by simp
theorem pop_mustCancel (k : K) : (k.pop).mustCancel = k.mustCancel := by simp
theorem pop_cancelMsg (k : K) : (k.pop).cancelMsg = k.cancelMsg := by simp
theorem pop_waiter (k : K) : (k.pop).waiter = k.waiter := by simp
theorem pop_stepFuel (k : K) : (k.pop).stepFuel = k.stepFuel := by simp
theorem pop_fix (k : K) : (k.pop).fix = k.fix := by simp
theorem pop_out (k : K) : (k.pop).out = k.out := by simp

@[simp] theorem updScope_frame (k : K) (s : Nat) (g : Scope → Scope) :
    let k' := k.updScope s g
    SameFixed k' k ∧ k'.ready = k.ready ∧ k'.batch = k.batch ∧ k'.timers = k.timers ∧ k'.futs = k.futs ∧
    k'.mustCancel = k.mustCancel ∧ k'.cancelMsg = k.cancelMsg ∧ k'.numCancels = k.numCancels ∧
    k'.waiter = k.waiter ∧ k'.done = k.done ∧ k'.frames = k.frames ∧ k'.delayed = k.delayed ∧ k'.out = k.out := by
  simp [SameFixed, K.updScope]

@[simp] theorem taskUncancel_frame (k : K) :
    let k' := k.taskUncancel
    SameFixed k' k ∧ k'.ready = k.ready ∧ k'.batch = k.batch ∧ k'.timers = k.timers ∧ k'.futs = k.futs ∧
    k'.mustCancel = k.mustCancel ∧ k'.cancelMsg = k.cancelMsg ∧ k'.waiter = k.waiter ∧ k'.done = k.done ∧
    k'.frames = k.frames ∧ k'.scopes = k.scopes ∧ k'.delayed = k.delayed ∧ k'.out = k.out := by
  simp [SameFixed, K.taskUncancel]

abbrev FutDoneFrame (k' k : K) : Prop :=
  SameFixed k' k ∧ k'.batch = k.batch ∧ k'.timers = k.timers ∧ k'.mustCancel = k.mustCancel ∧
  k'.cancelMsg = k.cancelMsg ∧ k'.numCancels = k.numCancels ∧ k'.waiter = k.waiter ∧ k'.done = k.done ∧
  k'.frames = k.frames ∧ k'.scopes = k.scopes ∧ k'.delayed = k.delayed ∧ k'.out = k.out

@[simp] theorem scheduleCb_frame (k : K) (f : Nat) : FutDoneFrame (k.scheduleCb f) k := by
  fun_cases K.scheduleCb k f <;> simp [FutDoneFrame, SameFixed]

@[simp] theorem futCancel_frame (k : K) (f : Nat) (m : Msg) : FutDoneFrame (k.futCancel f m).1 k := by
  fun_cases K.futCancel k f m <;> simp [FutDoneFrame, SameFixed]

theorem futCancel_mustCancel (k : K) (f : Nat) (m : Msg) : ((k.futCancel f m).1).mustCancel = k.mustCancel := by simp

@[simp] theorem futSetResult_frame (k : K) (f : Nat) : FutDoneFrame (k.futSetResult f) k := by
  fun_cases K.futSetResult k f <;> simp [FutDoneFrame, SameFixed]

theorem futSetResult_now (k : K) (f : Nat) : (k.futSetResult f).now = k.now := by simp
theorem futSetResult_batch (k : K) (f : Nat) : (k.futSetResult f).batch = k.batch := by simp
theorem futSetResult_timers (k : K) (f : Nat) : (k.futSetResult f).timers = k.timers := by simp
theorem futSetResult_mustCancel (k : K) (f : Nat) : (k.futSetResult f).mustCancel = k.mustCancel := by simp
theorem futSetResult_cancelMsg (k : K) (f : Nat) : (k.futSetResult f).cancelMsg = k.cancelMsg := by simp
theorem futSetResult_numCancels (k : K) (f : Nat) : (k.futSetResult f).numCancels = k.numCancels := by simp
theorem futSetResult_waiter (k : K) (f : Nat) : (k.futSetResult f).waiter = k.waiter := by simp
theorem futSetResult_delayed (k : K) (f : Nat) : (k.futSetResult f).delayed = k.delayed := by simp
theorem futSetResult_stepFuel (k : K) (f : Nat) : (k.futSetResult f).stepFuel = k.stepFuel := by simp
theorem futSetResult_fix (k : K) (f : Nat) : (k.futSetResult f).fix = k.fix := by simp
theorem futSetResult_extCount (k : K) (f : Nat) : (k.futSetResult f).extCount = k.extCount := by simp
theorem futSetResult_phantom (k : K) (f : Nat) : (k.futSetResult f).phantom = k.phantom := by simp
theorem futSetResult_bad (k : K) (f : Nat) : (k.futSetResult f).bad = k.bad := by simp
theorem futSetResult_out (k : K) (f : Nat) : (k.futSetResult f).out = k.out := by simp

@[simp] theorem taskCancel_frame (k : K) (m : Msg) :
    let k' := k.taskCancel m
    SameFixed k' k ∧ k'.batch = k.batch ∧ k'.timers = k.timers ∧ k'.waiter = k.waiter ∧ k'.done = k.done ∧
    k'.frames = k.frames ∧ k'.scopes = k.scopes ∧ k'.delayed = k.delayed ∧ k'.out = k.out := by
  fun_cases K.taskCancel k m <;> simp [SameFixed]

abbrev DeliverFrame (k' k : K) : Prop :=
  SameFixed k' k ∧ k'.batch = k.batch ∧ k'.timers = k.timers ∧ k'.waiter = k.waiter ∧ k'.done = k.done ∧
  k'.frames = k.frames ∧ k'.delayed = k.delayed ∧ k'.out = k.out

@[simp] theorem deliver_frame (k : K) (s : Nat) (cur : Bool) : DeliverFrame (k.deliver s cur) k := by
  fun_cases K.deliver k s cur <;> simp [DeliverFrame, SameFixed]

@[simp] theorem checkPendingFrom_frame (k : K) (l : List Nat) : DeliverFrame (k.checkPendingFrom l) k := by
  fun_induction K.checkPendingFrom k l <;> simp [DeliverFrame, SameFixed, *]

@[simp] theorem checkPending_frame (k : K) : DeliverFrame k.checkPending k := by
  unfold K.checkPending
  simp [DeliverFrame, SameFixed]

theorem checkPending_batch (k : K) : (k.checkPending).batch = k.batch := by simp
theorem checkPending_timers (k : K) : (k.checkPending).timers = k.timers := by simp
theorem checkPending_delayed (k : K) : (k.checkPending).delayed = k.delayed := by simp

abbrev ScopeCancelFrame (k' k : K) : Prop :=
  SameFixed k' k ∧ k'.waiter = k.waiter ∧ k'.done = k.done ∧ k'.frames = k.frames ∧ k'.delayed = k.delayed ∧
  k'.out = k.out

@[simp] theorem scopeCancel_frame (k : K) (s : Nat) (cur : Bool) : ScopeCancelFrame (k.scopeCancel s cur) k := by
  fun_cases K.scopeCancel k s cur <;> simp [ScopeCancelFrame, SameFixed]

@[simp] theorem setupTimeout_frame (k : K) (s : Nat) (cur : Bool) : ScopeCancelFrame (k.setupTimeout s cur) k := by
  fun_cases K.setupTimeout k s cur <;> simp [ScopeCancelFrame, SameFixed]

@[simp] theorem reschedule_frame (k : K) (s : Nat) (w : Option Nat) (cur : Bool) :
    ScopeCancelFrame (k.reschedule s w cur) k := by
  fun_cases K.reschedule k s w cur <;> simp [ScopeCancelFrame, SameFixed]

theorem reschedule_now (k : K) (s : Nat) (w : Option Nat) (cur : Bool) : (k.reschedule s w cur).now = k.now := by simp
theorem reschedule_waiter (k : K) (s : Nat) (w : Option Nat) (cur : Bool) : (k.reschedule s w cur).waiter = k.waiter := by simp
theorem reschedule_done (k : K) (s : Nat) (w : Option Nat) (cur : Bool) : (k.reschedule s w cur).done = k.done := by simp
theorem reschedule_frames (k : K) (s : Nat) (w : Option Nat) (cur : Bool) : (k.reschedule s w cur).frames = k.frames := by simp
theorem reschedule_delayed (k : K) (s : Nat) (w : Option Nat) (cur : Bool) : (k.reschedule s w cur).delayed = k.delayed := by simp
theorem reschedule_stepFuel (k : K) (s : Nat) (w : Option Nat) (cur : Bool) : (k.reschedule s w cur).stepFuel = k.stepFuel := by simp
theorem reschedule_fix (k : K) (s : Nat) (w : Option Nat) (cur : Bool) : (k.reschedule s w cur).fix = k.fix := by simp
theorem reschedule_extCount (k : K) (s : Nat) (w : Option Nat) (cur : Bool) : (k.reschedule s w cur).extCount = k.extCount := by simp
theorem reschedule_phantom (k : K) (s : Nat) (w : Option Nat) (cur : Bool) : (k.reschedule s w cur).phantom = k.phantom := by simp
theorem reschedule_bad (k : K) (s : Nat) (w : Option Nat) (cur : Bool) : (k.reschedule s w cur).bad = k.bad := by simp
theorem reschedule_out (k : K) (s : Nat) (w : Option Nat) (cur : Bool) : (k.reschedule s w cur).out = k.out := by simp

abbrev ReschedDelayedFrame (k' k : K) : Prop :=
  SameFixed k' k ∧ k'.batch = k.batch ∧ k'.timers = k.timers ∧ k'.futs = k.futs ∧ k'.mustCancel = k.mustCancel ∧
  k'.cancelMsg = k.cancelMsg ∧ k'.numCancels = k.numCancels ∧ k'.waiter = k.waiter ∧ k'.frames = k.frames ∧
  k'.scopes = k.scopes

@[simp] theorem reschedDelayed_frame (k : K) (m : Msg) : ReschedDelayedFrame (k.reschedDelayed m) k := by
  fun_cases K.reschedDelayed k m <;> simp +zetaDelta [ReschedDelayedFrame, SameFixed]

@[simp] theorem reschedOpt_frame (k : K) (o : Option Msg) : ReschedDelayedFrame (k.reschedOpt o) k := by
  cases o <;> simp [ReschedDelayedFrame, SameFixed, K.reschedOpt]

theorem reschedOpt_now (k : K) (o : Option Msg) : (k.reschedOpt o).now = k.now := by simp
theorem reschedOpt_batch (k : K) (o : Option Msg) : (k.reschedOpt o).batch = k.batch := by simp
theorem reschedOpt_timers (k : K) (o : Option Msg) : (k.reschedOpt o).timers = k.timers := by simp
theorem reschedOpt_futs (k : K) (o : Option Msg) : (k.reschedOpt o).futs = k.futs := by simp
theorem reschedOpt_mustCancel (k : K) (o : Option Msg) : (k.reschedOpt o).mustCancel = k.mustCancel := by simp
theorem reschedOpt_cancelMsg (k : K) (o : Option Msg) : (k.reschedOpt o).cancelMsg = k.cancelMsg := by simp
theorem reschedOpt_numCancels (k : K) (o : Option Msg) : (k.reschedOpt o).numCancels = k.numCancels := by simp
theorem reschedOpt_waiter (k : K) (o : Option Msg) : (k.reschedOpt o).waiter = k.waiter := by simp
theorem reschedOpt_scopes (k : K) (o : Option Msg) : (k.reschedOpt o).scopes = k.scopes := by simp
theorem reschedOpt_stepFuel (k : K) (o : Option Msg) : (k.reschedOpt o).stepFuel = k.stepFuel := by simp
theorem reschedOpt_fix (k : K) (o : Option Msg) : (k.reschedOpt o).fix = k.fix := by simp
theorem reschedOpt_extCount (k : K) (o : Option Msg) : (k.reschedOpt o).extCount = k.extCount := by simp
theorem reschedOpt_phantom (k : K) (o : Option Msg) : (k.reschedOpt o).phantom = k.phantom := by simp
theorem reschedOpt_bad (k : K) (o : Option Msg) : (k.reschedOpt o).bad = k.bad := by simp

abbrev UncancelFrame (k' k : K) : Prop :=
  SameFixed k' k ∧ k'.ready = k.ready ∧ k'.batch = k.batch ∧ k'.timers = k.timers ∧ k'.futs = k.futs ∧
  k'.mustCancel = k.mustCancel ∧ k'.cancelMsg = k.cancelMsg ∧ k'.waiter = k.waiter ∧ k'.done = k.done ∧
  k'.frames = k.frames ∧ k'.delayed = k.delayed ∧ k'.out = k.out

@[simp] theorem uncancelLoop_frame (k : K) (s : Nat) (m : Msg) (n : Nat) :
    UncancelFrame (k.uncancelLoop s m n).1 k := by
  fun_induction K.uncancelLoop k s m n <;> simp [UncancelFrame, SameFixed, *]

@[simp] theorem undoRemaining_frame (k : K) (s : Nat) : UncancelFrame (k.undoRemaining s) k := by
  simp [UncancelFrame, SameFixed, K.undoRemaining, K.updScope]

@[simp] theorem exitCatch_frame (k : K) (s : Nat) (e : Option Exc) : UncancelFrame (k.exitCatch s e) k := by
  fun_cases K.exitCatch k s e <;> simp [UncancelFrame, SameFixed]

@[simp] theorem dropOwnDelayed_frame (k : K) (s : Nat) :
    let k' := k.dropOwnDelayed s
    SameFixed k' k ∧ k'.futs = k.futs ∧ k'.mustCancel = k.mustCancel ∧ k'.cancelMsg = k.cancelMsg ∧
    k'.numCancels = k.numCancels ∧ k'.waiter = k.waiter ∧ k'.done = k.done ∧ k'.frames = k.frames ∧
    k'.scopes = k.scopes ∧ k'.out = k.out := by
  fun_cases K.dropOwnDelayed k s <;> simp [SameFixed]

theorem dropOwnDelayed_numCancels (k : K) (s : Nat) : (k.dropOwnDelayed s).numCancels = k.numCancels := by simp
theorem dropOwnDelayed_scopes (k : K) (s : Nat) : (k.dropOwnDelayed s).scopes = k.scopes := by simp

@[simp] theorem exitCancelled_frame (k : K) (s : Nat) (e : Option Exc) :
    let k' := k.exitCancelled s e
    SameFixed k' k ∧ k'.futs = k.futs ∧ k'.mustCancel = k.mustCancel ∧ k'.cancelMsg = k.cancelMsg ∧
    k'.waiter = k.waiter ∧ k'.done = k.done ∧ k'.frames = k.frames ∧ k'.out = k.out := by
  fun_cases K.exitCancelled k s e <;> simp [SameFixed]

theorem exitCancelled_futs (k : K) (s : Nat) (e : Option Exc) : (k.exitCancelled s e).futs = k.futs := by simp
theorem exitCancelled_mustCancel (k : K) (s : Nat) (e : Option Exc) : (k.exitCancelled s e).mustCancel = k.mustCancel := by simp
theorem exitCancelled_cancelMsg (k : K) (s : Nat) (e : Option Exc) : (k.exitCancelled s e).cancelMsg = k.cancelMsg := by simp

@[simp] theorem scopeExit_frame (k : K) (s : Nat) (e : Option Exc) :
    let k' := k.scopeExit s e
    SameFixed k' k ∧ k'.waiter = k.waiter ∧ k'.done = k.done ∧ k'.frames = k.frames ∧ k'.out = k.out := by
  fun_cases K.scopeExit k s e <;> simp [SameFixed]

theorem scopeExit_now (k : K) (s : Nat) (e : Option Exc) : (k.scopeExit s e).now = k.now := by simp
theorem scopeExit_waiter (k : K) (s : Nat) (e : Option Exc) : (k.scopeExit s e).waiter = k.waiter := by simp
theorem scopeExit_done (k : K) (s : Nat) (e : Option Exc) : (k.scopeExit s e).done = k.done := by simp
theorem scopeExit_frames (k : K) (s : Nat) (e : Option Exc) : (k.scopeExit s e).frames = k.frames := by simp
theorem scopeExit_stepFuel (k : K) (s : Nat) (e : Option Exc) : (k.scopeExit s e).stepFuel = k.stepFuel := by simp
theorem scopeExit_fix (k : K) (s : Nat) (e : Option Exc) : (k.scopeExit s e).fix = k.fix := by simp
theorem scopeExit_extCount (k : K) (s : Nat) (e : Option Exc) : (k.scopeExit s e).extCount = k.extCount := by simp
theorem scopeExit_phantom (k : K) (s : Nat) (e : Option Exc) : (k.scopeExit s e).phantom = k.phantom := by simp
theorem scopeExit_bad (k : K) (s : Nat) (e : Option Exc) : (k.scopeExit s e).bad = k.bad := by simp
theorem scopeExit_out (k : K) (s : Nat) (e : Option Exc) : (k.scopeExit s e).out = k.out := by simp

@[simp] theorem scopeEnter_frame (k : K) (sid : Nat) (to : Bool) (delay : Option Nat) (pre : Bool) :
    let k' := k.scopeEnter sid to delay pre
    SameFixed k' k ∧ k'.waiter = k.waiter ∧ k'.done = k.done ∧ k'.delayed = k.delayed ∧ k'.out = k.out := by
  fun_cases K.scopeEnter k sid to delay pre <;> simp [SameFixed]

theorem scopeEnter_now (k : K) (sid : Nat) (to : Bool) (delay : Option Nat) (pre : Bool) : (k.scopeEnter sid to delay pre).now = k.now := by simp
theorem scopeEnter_waiter (k : K) (sid : Nat) (to : Bool) (delay : Option Nat) (pre : Bool) : (k.scopeEnter sid to delay pre).waiter = k.waiter := by simp
theorem scopeEnter_delayed (k : K) (sid : Nat) (to : Bool) (delay : Option Nat) (pre : Bool) : (k.scopeEnter sid to delay pre).delayed = k.delayed := by simp
theorem scopeEnter_stepFuel (k : K) (sid : Nat) (to : Bool) (delay : Option Nat) (pre : Bool) : (k.scopeEnter sid to delay pre).stepFuel = k.stepFuel := by simp
theorem scopeEnter_fix (k : K) (sid : Nat) (to : Bool) (delay : Option Nat) (pre : Bool) : (k.scopeEnter sid to delay pre).fix = k.fix := by simp
theorem scopeEnter_extCount (k : K) (sid : Nat) (to : Bool) (delay : Option Nat) (pre : Bool) : (k.scopeEnter sid to delay pre).extCount = k.extCount := by simp
theorem scopeEnter_phantom (k : K) (sid : Nat) (to : Bool) (delay : Option Nat) (pre : Bool) : (k.scopeEnter sid to delay pre).phantom = k.phantom := by simp
theorem scopeEnter_bad (k : K) (sid : Nat) (to : Bool) (delay : Option Nat) (pre : Bool) : (k.scopeEnter sid to delay pre).bad = k.bad := by simp
theorem scopeEnter_out (k : K) (sid : Nat) (to : Bool) (delay : Option Nat) (pre : Bool) : (k.scopeEnter sid to delay pre).out = k.out := by simp

@[simp] theorem setWaiter_frame (k : K) (f : Nat) :
    let k' := k.setWaiter f
    SameFixed k' k ∧ k'.ready = k.ready ∧ k'.batch = k.batch ∧ k'.timers = k.timers ∧ k'.mustCancel = k.mustCancel ∧
    k'.cancelMsg = k.cancelMsg ∧ k'.numCancels = k.numCancels ∧ k'.done = k.done ∧ k'.frames = k.frames ∧
    k'.scopes = k.scopes ∧ k'.delayed = k.delayed ∧ k'.out = k.out := by
  simp [SameFixed, K.setWaiter, K.updFut]

theorem setWaiter_ready (k : K) (f : Nat) : (k.setWaiter f).ready = k.ready := by simp
theorem setWaiter_mustCancel (k : K) (f : Nat) : (k.setWaiter f).mustCancel = k.mustCancel := by simp

@[simp] theorem taskYield_frame (k : K) (y : Yield) :
    let k' := k.taskYield y
    SameFixed k' k ∧ k'.batch = k.batch ∧ k'.timers = k.timers ∧ k'.cancelMsg = k.cancelMsg ∧
    k'.numCancels = k.numCancels ∧ k'.done = k.done ∧ k'.frames = k.frames ∧ k'.scopes = k.scopes ∧
    k'.delayed = k.delayed ∧ k'.out = k.out := by
  fun_cases K.taskYield k y <;> simp +zetaDelta [SameFixed]

theorem taskYield_now (k : K) (y : Yield) : (k.taskYield y).now = k.now := by simp
theorem taskYield_batch (k : K) (y : Yield) : (k.taskYield y).batch = k.batch := by simp
theorem taskYield_timers (k : K) (y : Yield) : (k.taskYield y).timers = k.timers := by simp
theorem taskYield_cancelMsg (k : K) (y : Yield) : (k.taskYield y).cancelMsg = k.cancelMsg := by simp
theorem taskYield_delayed (k : K) (y : Yield) : (k.taskYield y).delayed = k.delayed := by simp
theorem taskYield_stepFuel (k : K) (y : Yield) : (k.taskYield y).stepFuel = k.stepFuel := by simp
theorem taskYield_fix (k : K) (y : Yield) : (k.taskYield y).fix = k.fix := by simp
theorem taskYield_bad (k : K) (y : Yield) : (k.taskYield y).bad = k.bad := by simp
theorem taskYield_out (k : K) (y : Yield) : (k.taskYield y).out = k.out := by simp

@[simp] theorem taskFinish_frame (k : K) (e : Option Exc) :
    let k' := k.taskFinish e
    SameFixed k' k ∧ k'.ready = k.ready ∧ k'.batch = k.batch ∧ k'.timers = k.timers ∧ k'.futs = k.futs ∧
    k'.cancelMsg = k.cancelMsg ∧ k'.numCancels = k.numCancels ∧ k'.waiter = k.waiter ∧ k'.frames = k.frames ∧
    k'.scopes = k.scopes ∧ k'.delayed = k.delayed ∧ k'.out = k.out := by
  fun_cases K.taskFinish k e <;> simp [SameFixed]

theorem taskFinish_now (k : K) (e : Option Exc) : (k.taskFinish e).now = k.now := by simp
theorem taskFinish_cancelMsg (k : K) (e : Option Exc) : (k.taskFinish e).cancelMsg = k.cancelMsg := by simp
theorem taskFinish_waiter (k : K) (e : Option Exc) : (k.taskFinish e).waiter = k.waiter := by simp
theorem taskFinish_stepFuel (k : K) (e : Option Exc) : (k.taskFinish e).stepFuel = k.stepFuel := by simp
theorem taskFinish_fix (k : K) (e : Option Exc) : (k.taskFinish e).fix = k.fix := by simp
theorem taskFinish_out (k : K) (e : Option Exc) : (k.taskFinish e).out = k.out := by simp

end EasyNet.CS

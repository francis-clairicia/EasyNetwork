/-
  C13 — interruption: definitions and list lemmas for the invariant behind `C13_interrupt`; what the primitives do
  to the queue and to the futures.

  Fragment: programs without shielded sections and without user-level `except CancelledError`
  (`Stmt.sfList`): nested move_on/timeout scopes with arbitrary deadlines, sleeps, checkpoints, explicit
  scope.cancel() / reschedule, any number of external task.cancel() at any tick, any tie position.

  The ghost monitor `K.bad` is raised by the model when a blocking operation that started under a cancelled scope
  completes normally.  The invariant says why it never is: when such an operation is parked, either a cancellation
  is already in flight (`_must_cancel` or the awaited future is cancelled), or the loop's queue holds a
  re-delivery callback of a cancelled scope *ahead of* the callback that will wake the task (`safe`).
-/
import EasyNet.Lemmas.CSAcctRun
namespace EasyNet.CS

mutual
  /-- shield-free, try-free statements -/
  def Stmt.sf : Stmt → Bool
    | .scope _ _ _ _ body => Stmt.sfList body
    | .shield _ _ => false
    | .tryc _ _ => false
    | .syield _ => false
    | _ => true
  def Stmt.sfList : List Stmt → Bool
    | [] => true
    | s :: ss => s.sf && Stmt.sfList ss
end

def Frame.sf : Frame → Bool
  | .seq rest => Stmt.sfList rest
  | .scopeF _ _ => true
  | .shieldF _ _ _ _ => false
  | .tryF _ => false
  | .blkF _ .sbare _ => false
  | .blkF _ _ _ => true

def Handle.sf : Handle → Bool
  | .step => true
  | .wakeup _ => true
  | .deliver _ => true
  | .timeoutCancel _ => true
  | .sleepDone _ => true
  | .ext => true
  | _ => false

/-- the callbacks that are scheduled with `call_at` -/
def Handle.isTimer : Handle → Bool
  | .timeoutCancel _ => true
  | .sleepDone _ => true
  | .ext => true
  | _ => false

def Handle.isWake : Handle → Bool
  | .step => true
  | .wakeup _ => true
  | _ => false

def Handle.isDeliver : Handle → Bool
  | .deliver _ => true
  | _ => false

/-- the loop's queue in execution order: rest of this turn, then the next turn -/
def K.Q (k : K) : List Handle := k.batch ++ k.ready

/-- a re-delivery callback comes before any callback that wakes the task -/
def safe : List Handle → Bool
  | [] => false
  | .deliver _ :: _ => true
  | .step :: _ => false
  | .wakeup _ :: _ => false
  | _ :: t => safe t

theorem Handle.isDeliver_of_isWake {x : Handle} (h : x.isWake = true) : x.isDeliver = false := by
  cases x <;> first | rfl | cases h

theorem safe_cons (x : Handle) (t : List Handle) : safe (x :: t) = (x.isDeliver || (!x.isWake && safe t)) := by
  cases x <;> rfl

theorem safe_cons_iff (x : Handle) (t : List Handle) :
    safe (x :: t) = true ↔ x.isDeliver = true ∨ (x.isWake = false ∧ safe t = true) := by
  simp [safe_cons]

theorem safe_cons_other (x : Handle) (l : List Handle) (hw : x.isWake = false) (hd : x.isDeliver = false) :
    safe (x :: l) = safe l := by
  simp [safe_cons, hw, hd]

theorem safe_append (a b : List Handle) (h : safe a = true) : safe (a ++ b) = true := by
  induction a with
  | nil => cases h
  | cons x xs ih =>
    rw [List.cons_append, safe_cons_iff]
    exact ((safe_cons_iff x xs).mp h).imp id (And.imp id ih)

theorem safe_of_mem (a b : List Handle) (s : Nat) (hw : ∀ x ∈ a, x.isWake = false) (hm : Handle.deliver s ∈ a) :
    safe (a ++ b) = true := by
  induction a with
  | nil => cases hm
  | cons x xs ih =>
    rw [List.cons_append, safe_cons_iff]
    rcases List.mem_cons.mp hm with rfl | hm
    · exact Or.inl rfl
    · exact Or.inr ⟨hw x List.mem_cons_self, ih (fun y hy => hw y (List.mem_cons_of_mem _ hy)) hm⟩

theorem safe_filter (l : List Handle) (p : Handle → Bool)
    (hp : ∀ x, x.isWake = true ∨ x.isDeliver = true → p x = true) : safe (l.filter p) = safe l := by
  induction l with
  | nil => rfl
  | cons x xs ih =>
    by_cases hpx : p x = true
    · rw [List.filter_cons_of_pos hpx, safe_cons, safe_cons, ih]
    · have hw : x.isWake = false := Bool.eq_false_iff.mpr fun hw => hpx (hp x (Or.inl hw))
      have hd : x.isDeliver = false := Bool.eq_false_iff.mpr fun hd => hpx (hp x (Or.inr hd))
      rw [List.filter_cons_of_neg hpx, safe_cons_other x xs hw hd, ih]

def wakes (l : List Handle) : List Handle := l.filter Handle.isWake

theorem wakes_append (a b : List Handle) : wakes (a ++ b) = wakes a ++ wakes b := by simp [wakes]

theorem wakes_nil_iff (l : List Handle) : wakes l = [] ↔ ∀ x ∈ l, x.isWake = false := by
  simp [wakes, List.filter_eq_nil_iff]

theorem mem_wakes (l : List Handle) (x : Handle) : x ∈ wakes l ↔ x ∈ l ∧ x.isWake = true := by
  simp [wakes]

theorem wakes_filter (l : List Handle) (p : Handle → Bool) (hp : ∀ x, x.isWake = true → p x = true) :
    wakes (l.filter p) = wakes l := by
  simp only [wakes, List.filter_filter]
  refine List.filter_congr fun x _ => ?_
  cases hw : x.isWake
  · rfl
  · simp [hp x hw]

/-- a cancellation is on its way to the parked task -/
def inflight (k : K) : Prop :=
  k.mustCancel = true ∨ ∃ f m, k.waiter = some f ∧ k.futState f = .cancelled m

/-- the task is parked at a blocking operation that started under a cancelled scope (ghost flag) -/
def Flagged (k : K) : Prop := ∃ id kd fs, k.frames = .blkF id kd true :: fs

@[simp] theorem Q_callSoon (k : K) (h : Handle) : (k.callSoon h).Q = k.Q ++ [h] := by simp [K.Q, K.callSoon]
@[simp] theorem Q_updFut (k : K) (f : Nat) (g : Fut → Fut) : (k.updFut f g).Q = k.Q := rfl
@[simp] theorem Q_updScope (k : K) (s : Nat) (g : Scope → Scope) : (k.updScope s g).Q = k.Q := rfl
@[simp] theorem Q_emit (k : K) (e : Ev) : (k.emit e).Q = k.Q := rfl
@[simp] theorem Q_callAt (k : K) (w : Nat) (p : Int) (h : Handle) : (k.callAt w p h).Q = k.Q := rfl
@[simp] theorem Q_push (k : K) (f : Frame) : (k.push f).Q = k.Q := rfl
@[simp] theorem Q_pop (k : K) : k.pop.Q = k.Q := rfl
@[simp] theorem Q_newFut (k : K) : k.newFut.Q = k.Q := rfl
@[simp] theorem Q_taskUncancel (k : K) : k.taskUncancel.Q = k.Q := rfl
@[simp] theorem Q_cancelHandle (k : K) (h : Handle) : (k.cancelHandle h).Q = k.Q.filter (· != h) := by
  simp [K.Q, K.cancelHandle]

@[simp] theorem futCb_callSoon (k : K) (h : Handle) (f : Nat) : (k.callSoon h).futCb f = k.futCb f := rfl
@[simp] theorem futState_callSoon (k : K) (h : Handle) (f : Nat) : (k.callSoon h).futState f = k.futState f := rfl
@[simp] theorem futCb_updScope (k : K) (s : Nat) (g : Scope → Scope) (f : Nat) : (k.updScope s g).futCb f = k.futCb f := rfl
@[simp] theorem futState_updScope (k : K) (s : Nat) (g : Scope → Scope) (f : Nat) :
    (k.updScope s g).futState f = k.futState f := rfl

theorem futCb_updFut_cb (k : K) (f f' : Nat) (c : Cb) :
    (k.updFut f (fun x => { x with cb := c })).futCb f' = if f' = f ∧ f < k.futs.length then c else k.futCb f' := by
  unfold K.futCb K.updFut
  rw [getElem?_updAt]
  by_cases h : f' = f
  · subst h
    by_cases hv : f' < k.futs.length <;> simp [hv]
  · simp [h]

theorem futState_updFut_state (k : K) (f f' : Nat) (st : FState) :
    (k.updFut f (fun x => { x with state := st })).futState f' =
      if f' = f ∧ f < k.futs.length then st else k.futState f' := by
  unfold K.futState K.updFut
  rw [getElem?_updAt]
  by_cases h : f' = f
  · subst h
    by_cases hv : f' < k.futs.length <;> simp [hv]
  · simp [h]

theorem futState_updFut_cb (k : K) (f f' : Nat) (c : Cb) :
    (k.updFut f (fun x => { x with cb := c })).futState f' = k.futState f' := by
  unfold K.futState K.updFut
  rw [getElem?_updAt]
  by_cases h : f' = f
  · rw [if_pos h]; cases k.futs[f']? <;> rfl
  · rw [if_neg h]

theorem futCb_updFut_state (k : K) (f f' : Nat) (st : FState) :
    (k.updFut f (fun x => { x with state := st })).futCb f' = k.futCb f' := by
  unfold K.futCb K.updFut
  rw [getElem?_updAt]
  by_cases h : f' = f
  · rw [if_pos h]; cases k.futs[f']? <;> rfl
  · rw [if_neg h]

theorem futState_pending_valid (k : K) (f : Nat) (h : k.futState f = .pending) : f < k.futs.length := by
  refine Nat.lt_of_not_le fun hv => ?_
  rw [K.futState, List.getElem?_eq_none hv] at h
  cases h

theorem futCb_valid (k : K) (f : Nat) (h : k.futCb f ≠ .none) : f < k.futs.length := by
  refine Nat.lt_of_not_le fun hv => h ?_
  rw [K.futCb, List.getElem?_eq_none hv]

theorem futCb_newFut (k : K) (f : Nat) : k.newFut.futCb f = k.futCb f := by
  unfold K.futCb K.newFut
  by_cases hv : f < k.futs.length
  · rw [List.getElem?_append_left hv]
  · rw [List.getElem?_append_right (Nat.le_of_not_lt hv), List.getElem?_eq_none (Nat.le_of_not_lt hv)]
    cases f - k.futs.length <;> rfl

theorem futState_newFut_old (k : K) (f : Nat) (hv : f < k.futs.length) : k.newFut.futState f = k.futState f := by
  unfold K.futState K.newFut
  simp [List.getElem?_append_left hv]

end EasyNet.CS

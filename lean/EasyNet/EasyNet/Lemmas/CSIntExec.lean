/-
  C13 — interruption: micro-steps of the coroutine (shield-free fragment) and the moment the task parks.
-/
import EasyNet.Lemmas.CSIntRun
namespace EasyNet.CS

theorem Run.setFrames {ms : List Handle} {k : K} (h : Run ms k) (fs : List Frame) (hsf : ∀ fr ∈ fs, fr.sf = true)
    (hids : scopeIds fs = scopeIds k.frames) : Run ms { k with frames := fs } :=
  ⟨h.core.mono hsf hids (fun _ hx => Or.inl hx) (fun _ hs => Or.inl hs) (fun _ hp => Or.inl hp) rfl (fun _ => rfl)
    (fun _ hs => Or.inl hs) rfl h.core.cbs, h.running.congr rfl⟩

theorem Run.push {ms : List Handle} {k : K} (h : Run ms k) (fr : Frame) (hsf : fr.sf = true)
    (hs : scopeIds (fr :: k.frames) = scopeIds k.frames) : Run ms (k.push fr) :=
  h.setFrames (fr :: k.frames) (List.forall_mem_cons.mpr ⟨hsf, h.core.sfF⟩) hs

theorem Run.pop {ms : List Handle} {k : K} (h : Run ms k) {fr : Frame} {fs : List Frame} (hk : k.frames = fr :: fs)
    (hs : scopeIds (fr :: fs) = scopeIds fs) : Run ms k.pop :=
  h.setFrames (k.frames.drop 1) (fun x hx => h.core.sfF x (List.mem_of_mem_drop hx)) (by rw [hk]; exact hs.symm)

theorem Run.newFut {ms : List Handle} {k : K} (h : Run ms k) : Run ms k.newFut :=
  ⟨h.core.setFuts rfl fun f o => by rw [futCb_newFut]; exact h.core.cbs f o,
    h.running.mono (fun _ hx => Or.inl hx) (fun f => futCb_newFut k f) rfl rfl rfl⟩

/-- an operation that was not flagged completes -/
theorem Run.setBad {ms : List Handle} {k : K} (h : Run ms k) : Run ms { k with bad := k.bad || false } :=
  ⟨h.core.congr (by simp [K.coreView]) fun _ => rfl, h.running.congr rfl⟩

theorem bubble_sf (fs : List Frame) (y : Yield) (k : K) (h : ∀ fr ∈ fs, fr.sf = true) : bubble fs y k = (fs, y, k) := by
  induction fs with
  | nil => rfl
  | cons fr fs ih =>
    have h2 := ih (fun x hx => h x (List.mem_cons_of_mem _ hx))
    cases fr with
    | shieldF a b c d => cases h _ List.mem_cons_self
    | _ => simp only [bubble, h2]

theorem resumeOuter_sf (fs : List Frame) (sg : Signal) (k : K) (h : ∀ fr ∈ fs, fr.sf = true) :
    resumeOuter fs sg k = (fs, .go sg, k) := by
  induction fs with
  | nil => rfl
  | cons fr fs ih =>
    have h2 := ih (fun x hx => h x (List.mem_cons_of_mem _ hx))
    cases fr with
    | shieldF a b c d => cases h _ List.mem_cons_self
    | _ => simp only [resumeOuter, h2]

def CancelledOnStack (k : K) : Prop := ∃ s ∈ scopeIds k.frames, (scopeOf k.scopes s).cancelCalled = true

theorem flagNow_spec (k : K) (h : k.flagNow = true) : CancelledOnStack k := by
  unfold K.flagNow K.ccBits K.stack at h
  simp only [Bool.and_eq_true, List.any_eq_true, List.mem_map] at h
  obtain ⟨⟨b, ⟨s, hs, hb⟩, hbt⟩, _⟩ := h
  exact ⟨s, hs, by rw [← scope_eq, hb]; exact hbt⟩

theorem flagged_blk {k k' : K} {id : Nat} {kd : BlkKind} (hfr : k'.frames = .blkF id kd k.flagNow :: k.frames)
    (hsc : k'.scopes = k.scopes) : Flagged k' → CancelledOnStack k' := fun ⟨_, _, _, hF⟩ => by
  rw [hfr] at hF
  injection hF with hF
  injection hF with _ _ hfl
  obtain ⟨s, hs, hc⟩ := flagNow_spec k hfl
  exact ⟨s, by rw [hfr]; exact hs, by rw [hsc]; exact hc⟩

/-- a flagged operation parks behind the re-delivery callback of its cancelled scope: `l` is what `Task.__step`
    appends to the queue -/
theorem Gd.of_parked {k k' : K} (h : Run [] k) (hfl : Flagged k → CancelledOnStack k) (l : List Handle)
    (hfr : k'.frames = k.frames) (hQ : k'.Q = k.Q ++ l) : Gd k' := fun ⟨id, kd, fs, hF⟩ => by
  obtain ⟨s, hs, hc⟩ := hfl ⟨id, kd, fs, hfr ▸ hF⟩
  exact Or.inr (hQ ▸ safe_of_mem _ _ s ((wakes_nil_iff _).mp h.running.noWake) ((h.core.ha s hs hc).resolve_right nofun))

theorem taskYield_PInv (k : K) (y : Yield) (h : Run [] k) (hfl : Flagged k → CancelledOnStack k) : PInv (k.taskYield y) := by
  cases y with
  | bare =>
    show PInv (k.callSoon .step)
    exact ⟨h.core.callSoon .step rfl nofun, fun _ =>
      ⟨Wake.of_wakes [.step] (by rw [Q_callSoon, wakes_append, h.running.noWake]; rfl) (Nat.le_refl 1)
        (fun f hf => nomatch List.mem_singleton.mp hf) (fun _ => h.running.waiter) (fun f hf => absurd hf (h.running.noCb f)),
      Gd.of_parked h hfl [.step] rfl (Q_callSoon k .step)⟩⟩
  | fut f =>
    rw [show k.taskYield (.fut f) = k.setWaiter f by simp [K.taskYield, h.running.mc]]
    refine ⟨(h.core.updFut_cb f .wakeup nofun).congr rfl fun _ => rfl, fun _ =>
      ⟨Wake.of_wakes [] h.running.noWake (Nat.zero_le 1) nofun nofun fun f' hf => ?_,
      Gd.of_parked h hfl [] rfl (List.append_nil _).symm⟩⟩
    rw [show (k.setWaiter f).futCb f' = _ from futCb_updFut_cb k f f' .wakeup] at hf
    split at hf
    · rename_i he; rw [he.1]; rfl
    · exact absurd hf (h.running.noCb f')

theorem Core.sf_head {ms : List Handle} {k : K} {fr : Frame} {fs : List Frame} (h : Core ms k) (hk : k.frames = fr :: fs) :
    fr.sf = true := h.sfF fr (by rw [hk]; simp)

def Ctl.isResume : Ctl → Bool
  | .resume _ => true
  | _ => false

def StepOK (k' : K) : Next → Prop
  | .cont c1 => Run [] k' ∧ c1.isResume = false
  | .yielded _ => Run [] k' ∧ (Flagged k' → CancelledOnStack k')
  | .finished _ => Run [] k' ∧ k'.frames = []

theorem StepOK.nextOf {k' : K} (h : Run [] k') (o : Option Exc) : StepOK k' (nextOf o) := by
  cases o <;> exact ⟨h, rfl⟩

theorem startStmt_R (k : K) (st : Stmt) (hst : st.sf = true) (h : Run [] k) :
    StepOK (k.startStmt st).1 (k.startStmt st).2 := by
  cases st with
  | sleep id d =>
    cases d with
    | zero => exact ⟨(h.emit _).push _ rfl rfl, flagged_blk rfl rfl⟩
    | succ d => exact ⟨(((h.emit _).newFut).callAt _ _ _ rfl).push _ rfl rfl, flagged_blk rfl rfl⟩
  | yield_ id => exact ⟨(h.emit _).push _ rfl rfl, flagged_blk rfl rfl⟩
  | syield id => simp [Stmt.sf] at hst
  | cancel id i =>
    simp only [K.startStmt]
    split
    · rename_i s hs
      exact ⟨(scopeCancelCur_inv k s h (List.mem_of_getElem? hs)).emit _, rfl⟩
    · exact ⟨h, rfl⟩
  | resched id i d =>
    simp only [K.startStmt]
    split
    · rename_i s hs
      exact ⟨(rescheduleCur_inv k s _ h (List.mem_of_getElem? hs)).emit _, rfl⟩
    · exact ⟨h, rfl⟩
  | scope id to delay pre body =>
    exact ⟨((scopeEnter_inv k id to delay pre h).emit _).push _ (by simpa [Stmt.sf, Frame.sf] using hst) rfl, rfl⟩
  | shield id body => simp [Stmt.sf] at hst
  | tryc id body => simp [Stmt.sf] at hst

theorem notFlagged_of_frames {k : K} {id : Nat} {kd : BlkKind} {flag : Bool} {fs : List Frame}
    (hk : k.frames = .blkF id kd flag :: fs) (hn : ¬ Flagged k) : flag = false := by
  cases flag with
  | false => rfl
  | true => exact absurd ⟨id, kd, fs, hk⟩ hn

theorem coStep_R (k : K) (c : Ctl) (h : Run [] k) (hc : c = .resume .ok → ¬ Flagged k) :
    StepOK (k.coStep c).1 (k.coStep c).2 := by
  fun_cases K.coStep k c
  case case1 hk => exact ⟨h, hk⟩
  case case2 hk => exact ⟨h, hk⟩
  case case3 hk => exact ⟨h, hk⟩
  case case4 hk => exact ⟨h, hk⟩
  case case5 hk => exact ⟨h.pop hk rfl, rfl⟩
  case case6 s rest fs hk =>
    have hsf := h.core.sf_head hk
    simp only [Frame.sf, Stmt.sfList, Bool.and_eq_true] at hsf
    refine startStmt_R _ s hsf.1 (h.setFrames _ (List.forall_mem_cons.mpr ⟨hsf.2, fun x hx => ?_⟩) (by rw [hk]; rfl))
    exact h.core.sfF x (by rw [hk]; exact List.mem_cons_of_mem _ hx)
  case case7 hk => exact ⟨h.pop hk rfl, rfl⟩
  case case8 s to _ hk => exact .nextOf ((scopeExitCur_inv k s to _ none hk h).emit _) _
  case case9 e s to _ hk => exact .nextOf ((scopeExitCur_inv k s to _ (some e) hk h).emit _) _
  case case10 hk => cases h.core.sf_head hk
  case case11 hk => cases h.core.sf_head hk
  case case12 hk => cases h.core.sf_head hk
  case case13 hk => cases h.core.sf_head hk
  case case14 hk => cases h.core.sf_head hk
  case case15 id f flag tail hk =>
    cases notFlagged_of_frames hk (hc rfl)
    exact ⟨(((h.pop hk rfl).cancelHandle_other _ rfl).emit _).setBad, rfl⟩
  case case16 hk => exact ⟨((h.pop hk rfl).cancelHandle_other _ rfl).emit _, rfl⟩
  case case17 id flag tail hk =>
    cases notFlagged_of_frames hk (hc rfl)
    exact ⟨((h.pop hk rfl).emit _).setBad, rfl⟩
  case case18 hk => exact ⟨(h.pop hk rfl).emit _, rfl⟩
  case case19 hk => cases h.core.sf_head hk
  case case20 hk => cases h.core.sf_head hk
  case case21 => exact ⟨h, rfl⟩
  case case22 => exact ⟨h, rfl⟩
  case case23 hk => exact ⟨h.pop hk rfl, rfl⟩
  case case24 hk => exact ⟨h.pop hk rfl, rfl⟩

end EasyNet.CS

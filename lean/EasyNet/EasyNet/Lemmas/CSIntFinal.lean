/-
  C13 — interruption: task steps, the callback dispatcher, turns and whole runs.
-/
import EasyNet.Lemmas.CSIntExec
namespace EasyNet.CS

def IntGood (k : K) : Prop := (Crashed k ∧ k.bad = false) ∨ PInv k

theorem IntGood.nbad {k : K} (h : IntGood k) : k.bad = false := h.elim (·.2) (·.1.nbad)

theorem K.eta_frames (k : K) : ({ k with frames := k.frames } : K) = k := rfl

theorem taskFinish_done (k : K) (e : Option Exc) : (k.taskFinish e).done ≠ none := by
  unfold K.taskFinish
  (repeat' split) <;> simp

theorem exec_R (fuel : Nat) : ∀ (k : K) (c : Ctl), Run [] k → (c = .resume .ok → ¬ Flagged k) →
    IntGood (K.exec fuel k c) := by
  induction fuel with
  | zero => intro k c h hc; exact Or.inl ⟨rfl, h.core.nbad⟩
  | succ fuel ih =>
    intro k c h hc
    unfold K.exec
    split
    · rename_i hd; rw [h.running.nd] at hd; cases hd
    · have hs := coStep_R k c h hc
      split
      · rename_i k1 c1 heq
        rw [heq] at hs
        exact ih k1 c1 hs.1 fun he => by rw [he] at hs; cases hs.2
      · rename_i k1 y heq
        rw [heq] at hs
        rw [bubble_sf _ _ _ hs.1.core.sfF]
        exact Or.inr (taskYield_PInv k1 y hs.1 hs.2)
      · rename_i k1 e heq
        rw [heq] at hs
        exact Or.inr ⟨hs.1.core.congr (by simp [K.coreView]) (by simp), fun hd => absurd hd (taskFinish_done k1 e)⟩

theorem taskStep_R (k : K) (sg0 : Signal) (h : Core [] k) (hnd : k.done = none) (hnw : wakes k.Q = [])
    (hncb : ∀ f, k.futCb f ≠ .wakeup) (hsig : Flagged k → ∃ m, k.wakeSignal sg0 = .cancelled m) :
    IntGood (k.taskStep sg0) := by
  have hres : k.resumed sg0 = (k.frames.reverse, .go (k.wakeSignal sg0), { k with mustCancel := false, waiter := none }) :=
    resumeOuter_sf _ _ _ fun fr hfr => h.sfF fr (List.mem_reverse.mp hfr)
  have haft : k.afterDrivers sg0 = { k with mustCancel := false, waiter := none } := by
    unfold K.afterDrivers
    rw [hres]
    simp
  unfold K.taskStep
  rw [if_neg (by simp [hnd]), hres, haft]
  refine exec_R _ _ _ ⟨h.congr rfl fun _ => rfl, hnw, hncb, rfl, rfl, hnd⟩ fun he hF => ?_
  obtain ⟨m, hm⟩ := hsig hF
  injection he with he
  rw [hm] at he
  cases he

theorem wakeSignal_must (k : K) (sg0 : Signal) (h : k.mustCancel = true) : ∃ m, k.wakeSignal sg0 = .cancelled m := by
  unfold K.wakeSignal
  cases sg0 <;> simp [h]

theorem wakeSignal_cancelled (k : K) (m : Msg) : ∃ m', k.wakeSignal (.cancelled m) = .cancelled m' := by
  unfold K.wakeSignal
  split <;> simp

theorem wakes_after_pop (k : K) (x : Handle) (rest : List Handle) (hb : k.batch = x :: rest) (hp : Wake k)
    (hw : x.isWake = true) : wakes (K.Q { k with batch := rest }) = [] := by
  have := hp.wd
  rw [Q_of_batch k x rest hb] at this
  simp only [wakes, List.filter_cons_of_pos hw, List.length_cons] at this
  exact List.eq_nil_of_length_eq_zero (by simp only [wakes]; omega)

theorem taskStep_of_done {k : K} (h : k.done ≠ none) (sg : Signal) : k.taskStep sg = k := by
  unfold K.taskStep
  rw [if_pos (Option.isSome_iff_ne_none.mpr h)]

theorem wake_IntGood (k : K) (x : Handle) (rest : List Handle) (hb : k.batch = x :: rest) (h : PInv k) (hw : x.isWake = true)
    (sg0 : Signal)
    (hsig : Wake k → ∀ f m, k.waiter = some f → k.futState f = .cancelled m → ∃ m', sg0 = .cancelled m') :
    IntGood (K.taskStep { k with batch := rest } sg0) := by
  obtain ⟨hc, hp⟩ := h
  have hQ := Q_of_batch k x rest hb
  have hc' := hc.popBatch_other hb (Handle.isDeliver_of_isWake hw)
  by_cases hnd : k.done = none
  · have hP := hp hnd
    refine taskStep_R _ _ hc' hnd (wakes_after_pop k _ rest hb hP.w hw)
      (hP.w.noCb (by rw [hQ]; exact List.mem_cons_self) hw) (fun hF => ?_)
    rcases hP.g hF with (hm | ⟨f, m, hwf, hst⟩) | hs
    · exact wakeSignal_must _ _ hm
    · obtain ⟨m', rfl⟩ := hsig hP.w f m hwf hst
      exact wakeSignal_cancelled _ _
    · rw [hQ, safe_cons, hw, Handle.isDeliver_of_isWake hw] at hs; cases hs
  · rw [taskStep_of_done (k := { k with batch := rest }) hnd]
    exact Or.inr ⟨hc', fun hd => absurd hd hnd⟩

theorem PInv.popBatch_other {k : K} {x : Handle} {rest : List Handle} (h : PInv k) (hb : k.batch = x :: rest)
    (hw : x.isWake = false) (hd : x.isDeliver = false) : PInv { k with batch := rest } :=
  ⟨h.1.popBatch_other hb hd, fun hnd => ⟨(h.2 hnd).w.popBatch hb hw, (h.2 hnd).g.popBatch hb hw hd⟩⟩

theorem timeoutCancel_IntGood (k : K) (s : Nat) (h : PInv k) : IntGood (k.runHandleCore (.timeoutCancel s)) :=
  Or.inr (scopeCancelH_inv _ s ⟨h.1.updScope_harmless s _ (by intro; rfl), fun hnd => (h.2 hnd).updScope s _⟩)

theorem sleepDone_IntGood (k : K) (f : Nat) (h : PInv k) : IntGood (k.runHandleCore (.sleepDone f)) :=
  have := futSetResult_inv k f h.1
  Or.inr ⟨this.1, fun (hnd : (k.futSetResult f).done = none) => this.2 (h.2 (by simpa using hnd))⟩

theorem ext_IntGood (k : K) (h : PInv k) : IntGood (k.runHandleCore .ext) := by
  have hc1 : Core [] (k.emit (.ext k.now k.done.isSome)) := h.1.congr rfl fun _ => rfl
  rw [runHandleCore_ext]
  by_cases hnd : k.done = none
  · rw [if_neg (by simp [hnd])]
    exact Or.inr ⟨(taskCancel_inv _ none hc1).1.congr rfl fun _ => rfl,
      fun _ => (taskCancel_Parked _ none hc1 ((h.2 hnd).w.mono rfl (fun _ => rfl) rfl) hnd).congr rfl rfl⟩
  · rw [if_pos (by simpa [Option.isSome_iff_ne_none] using hnd)]
    exact Or.inr ⟨hc1, fun h' => absurd h' hnd⟩

theorem runHandle_IntGood (k : K) (x : Handle) (rest : List Handle) (hb : k.batch = x :: rest) (h : IntGood k) :
    IntGood (K.runHandle { k with batch := rest } x) := by
  unfold K.runHandle
  by_cases hcr : k.done = some .crash
  · rw [if_pos hcr]
    exact Or.inl ⟨hcr, h.nbad⟩
  rw [if_neg hcr]
  replace h : PInv k := h.resolve_left fun hc => hcr hc.1
  have hx : x ∈ k.Q := Q_of_batch k x rest hb ▸ List.mem_cons_self
  have hxsf : x.sf = true := h.1.sfQ x hx
  cases x with
  | step =>
    refine wake_IntGood k _ rest hb h rfl .ok (fun hW f m hwf _ => ?_)
    rw [hW.wb2 hx] at hwf
    cases hwf
  | wakeup f =>
    unfold K.runHandleCore
    dsimp only
    split
    · exact wake_IntGood k _ rest hb h rfl _ (fun _ _ _ _ _ => ⟨_, rfl⟩)
    · rename_i hst
      refine wake_IntGood k _ rest hb h rfl _ (fun hW f' m hwf hm => ?_)
      rw [hW.wb1 f hx] at hwf
      cases hwf
      exact absurd hm (hst m)
  | deliver s =>
    show IntGood (K.deliver { k with batch := rest } s false)
    exact Or.inr (deliverH_inv _ s (h.1.popBatch hb) (h.1.hq s hx) fun hnd => (h.2 hnd).w.popBatch hb rfl)
  | timeoutCancel s => exact timeoutCancel_IntGood _ s (h.popBatch_other hb rfl rfl)
  | sleepDone f => exact sleepDone_IntGood _ f (h.popBatch_other hb rfl rfl)
  | ext => exact ext_IntGood _ (h.popBatch_other hb rfl rfl)
  | delayedCancel m => cases hxsf
  | delayedPop => cases hxsf
  | innerDone f o => cases hxsf

theorem isTimer_spec (x : Handle) (h : x.isTimer = true) : x.sf = true ∧ x.isWake = false ∧ x.isDeliver = false := by
  cases x <;> simp_all [Handle.isTimer, Handle.sf, Handle.isWake, Handle.isDeliver]

theorem mem_dueTimers (now : Nat) (ts : List (Nat × Int × Handle)) (x : Handle) (h : x ∈ dueTimers now ts) :
    ∃ p ∈ ts, p.2.2 = x := by
  unfold dueTimers at h
  simp only [List.mem_map] at h
  obtain ⟨p, hp, hx⟩ := h
  exact ⟨p, (List.takeWhile_sublist _).subset hp, hx⟩

theorem Q_beginTurn (k : K) : k.beginTurn.Q = k.Q ++ dueTimers k.turnNow k.timers := by
  simp [K.Q, K.beginTurn]

theorem beginTurn_PInv (k : K) (h : PInv k) : PInv k.beginTurn := by
  obtain ⟨hc, hp⟩ := h
  have hdue : ∀ x ∈ dueTimers k.turnNow k.timers, x.sf = true ∧ x.isWake = false ∧ x.isDeliver = false := by
    intro x hx
    obtain ⟨p, hp', hpx⟩ := mem_dueTimers _ _ _ hx
    exact isTimer_spec x (by rw [← hpx]; exact hc.sfT p hp')
  have hwk : wakes k.beginTurn.Q = wakes k.Q := by
    rw [Q_beginTurn, wakes_append]
    have : wakes (dueTimers k.turnNow k.timers) = [] := (wakes_nil_iff _).mpr (fun x hx => (hdue x hx).2.1)
    rw [this]; simp
  refine ⟨?_, fun hnd => ?_⟩
  · refine hc.mono hc.sfF rfl (fun x hx => ?_) (fun s hs => Or.inl (by rw [Q_beginTurn]; simp [hs]))
      (fun p hp' => Or.inl ((List.dropWhile_sublist _).subset hp')) rfl (fun _ => rfl) (fun _ hs => Or.inl hs) rfl hc.cbs
    rw [Q_beginTurn] at hx
    rcases List.mem_append.mp hx with hx | hx
    · exact Or.inl hx
    · refine Or.inr ⟨(hdue x hx).1, fun s hs => ?_⟩
      have := (hdue x hx).2.2
      rw [hs] at this
      simp [Handle.isDeliver] at this
  · exact (hp hnd).mono hwk (fun hs => by rw [Q_beginTurn]; exact safe_append _ _ hs) (fun _ => rfl) (fun _ _ hm => hm)
      rfl id rfl

theorem endTurn_PInv (k : K) (h : PInv k) : PInv k.endTurn :=
  ⟨h.1.congr rfl fun _ => rfl, fun hnd => (h.2 hnd).congr rfl rfl⟩

theorem runTurns_IntGood (n : Nat) (k : K) (h : IntGood k) : IntGood (K.runTurns n k).1 :=
  runTurns_keeps runHandle_IntGood (fun k h => h.imp id (beginTurn_PInv k)) (fun k h => h.imp id (endTurn_PInv k)) n k h

theorem init_PInv (prog : List Stmt) (ext : List Nat) (extLast fix : Bool) (hsf : Stmt.sfList prog = true) :
    PInv (K.init prog ext extLast fix) := by
  unfold K.init
  apply addExt_keeps fun k _ _ h => ⟨h.1.callAt _ _ _ rfl, fun hnd => (h.2 (by simpa using hnd)).congr rfl rfl⟩
  -- the new task, before its first step is scheduled: nothing queued, no scope, no future
  have h0 : Run [] ({ frames := [.seq prog], stepFuel := 4 * Stmt.sizeList prog + 16, fix := fix } : K) :=
    ⟨⟨by simpa [Frame.sf] using hsf, List.forall_mem_nil _, List.forall_mem_nil _, rfl, .nil, List.forall_mem_nil _,
      fun s hs => by simp [scopeOf, defaultScope] at hs, (fun _ h => nomatch h), List.forall_mem_nil _, rfl,
      fun f o => by simp [K.futCb]⟩, rfl, fun f => by simp [K.futCb], rfl, rfl, rfl⟩
  exact taskYield_PInv _ .bare h0 fun ⟨_, _, _, hF⟩ => nomatch hF

/-- **no blocking operation started under a cancelled scope ever completes normally** (shield-free programs,
    every schedule of external cancels, every run length) -/
theorem run_not_bad (prog : List Stmt) (ext : List Nat) (extLast fix : Bool) (n : Nat) (hsf : Stmt.sfList prog = true) :
    (run prog ext extLast fix n).1.bad = false :=
  (runTurns_IntGood n _ (Or.inr (init_PInv prog ext extLast fix hsf))).nbad

end EasyNet.CS

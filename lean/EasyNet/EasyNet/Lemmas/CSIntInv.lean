/-
  C13 — interruption: the invariant (`Core`, `Parked` while the task is suspended, `Running` while it runs) and its
  transfer lemmas.
-/
import EasyNet.Lemmas.CSIntDefs
namespace EasyNet.CS

/-- holds at every point of a run of a shield-free program; `ms` = the callback being executed right now
    (already taken off the queue) -/
structure Core (ms : List Handle) (k : K) : Prop where
  sfF : ∀ fr ∈ k.frames, fr.sf = true
  sfQ : ∀ h ∈ k.Q, h.sf = true
  sfT : ∀ p ∈ k.timers, p.2.2.isTimer = true
  nodelay : k.delayed = none
  sorted : (scopeIds k.frames).Pairwise (· > ·)
  st : ∀ s ∈ scopeIds k.frames, (scopeOf k.scopes s).active = true
  act : ∀ s, (scopeOf k.scopes s).active = true → s ∈ scopeIds k.frames
  hq : ∀ s, Handle.deliver s ∈ k.Q → s ∈ scopeIds k.frames
  ha : ∀ s ∈ scopeIds k.frames, (scopeOf k.scopes s).cancelCalled = true → Handle.deliver s ∈ k.Q ∨ Handle.deliver s ∈ ms
  nbad : k.bad = false
  cbs : ∀ f o, k.futCb f ≠ .innerDone o

/-- wake-up discipline between two callbacks while the task is suspended: at most one waking callback is queued,
    it belongs to the future the task waits for -/
structure Wake (k : K) : Prop where
  wb1 : ∀ f, Handle.wakeup f ∈ k.Q → k.waiter = some f
  wb2 : Handle.step ∈ k.Q → k.waiter = none
  wc : ∀ f, Handle.wakeup f ∈ k.Q → k.futCb f ≠ .wakeup
  wd : (wakes k.Q).length ≤ 1
  c : ∀ f, k.futCb f = .wakeup → k.waiter = some f

/-- an operation parked under a cancelled scope: cancellation in flight, or re-delivery ahead of the wake-up -/
def Gd (k : K) : Prop := Flagged k → inflight k ∨ safe k.Q = true

structure Parked (k : K) : Prop where
  w : Wake k
  g : Gd k

/-- holds while the task's coroutine is being run by `Task.__step` -/
structure Running (k : K) : Prop where
  noWake : wakes k.Q = []
  noCb : ∀ f, k.futCb f ≠ .wakeup
  waiter : k.waiter = none
  mc : k.mustCancel = false
  nd : k.done = none

structure Run (ms : List Handle) (k : K) : Prop where
  core : Core ms k
  running : Running k

/-- the invariant between two callbacks -/
def PInv (k : K) : Prop := Core [] k ∧ (k.done = none → Parked k)

theorem Core.valid {ms : List Handle} {k : K} (h : Core ms k) {s : Nat} (hs : s ∈ scopeIds k.frames) : s < k.scopes.length :=
  scopeOf_active_valid _ _ (h.st s hs)

theorem Core.mono {ms : List Handle} {k k' : K} (h : Core ms k)
    (hsf : ∀ fr ∈ k'.frames, fr.sf = true)
    (hids : scopeIds k'.frames = scopeIds k.frames)
    (hQ1 : ∀ x ∈ k'.Q, x ∈ k.Q ∨ (x.sf = true ∧ ∀ s, x = .deliver s → s ∈ scopeIds k.frames))
    (hQ2 : ∀ s, Handle.deliver s ∈ k.Q → Handle.deliver s ∈ k'.Q ∨ Handle.deliver s ∈ ms)
    (hT : ∀ p ∈ k'.timers, p ∈ k.timers ∨ p.2.2.isTimer = true)
    (hd : k'.delayed = k.delayed)
    (hact : ∀ s, (scopeOf k'.scopes s).active = (scopeOf k.scopes s).active)
    (hcc : ∀ s, (scopeOf k'.scopes s).cancelCalled = true →
      (scopeOf k.scopes s).cancelCalled = true ∨ Handle.deliver s ∈ k'.Q ∨ Handle.deliver s ∈ ms)
    (hbad : k'.bad = k.bad)
    (hcb : ∀ f o, k'.futCb f ≠ .innerDone o) : Core ms k' where
  sfF := hsf
  sfQ := fun x hx => (hQ1 x hx).elim (h.sfQ x) (·.1)
  sfT := fun p hp => (hT p hp).elim (h.sfT p) id
  nodelay := hd.trans h.nodelay
  sorted := hids ▸ h.sorted
  st := fun s hs => (hact s).trans (h.st s (hids ▸ hs))
  act := fun s hs => hids ▸ h.act s ((hact s).symm.trans hs)
  hq := fun s hs => hids ▸ (hQ1 _ hs).elim (h.hq s) (·.2 s rfl)
  ha := fun s hs hc => (hcc s hc).elim (fun h1 => (h.ha s (hids ▸ hs) h1).elim (hQ2 s) Or.inr) id
  nbad := hbad.trans h.nbad
  cbs := hcb

theorem Core.reown {ms ms' : List Handle} {k : K} (h : Core ms k)
    (hms : ∀ s, Handle.deliver s ∈ ms → s ∈ scopeIds k.frames → Handle.deliver s ∈ k.Q ∨ Handle.deliver s ∈ ms') :
    Core ms' k :=
  ⟨h.sfF, h.sfQ, h.sfT, h.nodelay, h.sorted, h.st, h.act, h.hq,
    fun s hs hc => (h.ha s hs hc).elim Or.inl (fun hm => hms s hm hs), h.nbad, h.cbs⟩

theorem Core.weaken {ms : List Handle} {k : K} (h : Core [] k) : Core ms k :=
  h.reown fun _ hm _ => nomatch hm

theorem Running.mono {k k' : K} (h : Running k)
    (hQ : ∀ x ∈ k'.Q, x ∈ k.Q ∨ x.isWake = false)
    (hcb : ∀ f, k'.futCb f = k.futCb f) (hw : k'.waiter = k.waiter) (hm : k'.mustCancel = k.mustCancel)
    (hd : k'.done = k.done) : Running k' where
  noWake := (wakes_nil_iff _).mpr fun x hx => (hQ x hx).elim ((wakes_nil_iff _).mp h.noWake x) id
  noCb := fun f => hcb f ▸ h.noCb f
  waiter := hw.trans h.waiter
  mc := hm.trans h.mc
  nd := hd.trans h.nd

theorem Wake.of_wakes {k : K} (l : List Handle) (hQ : wakes k.Q = wakes l) (hl : (wakes l).length ≤ 1)
    (h1 : ∀ f, Handle.wakeup f ∈ l → k.waiter = some f ∧ k.futCb f ≠ .wakeup)
    (h2 : Handle.step ∈ l → k.waiter = none)
    (hc : ∀ f, k.futCb f = .wakeup → k.waiter = some f) : Wake k := by
  have hmem : ∀ x : Handle, x.isWake = true → x ∈ k.Q → x ∈ l := fun x hw hx =>
    ((mem_wakes l x).mp (hQ ▸ (mem_wakes k.Q x).mpr ⟨hx, hw⟩)).1
  exact ⟨fun f hf => (h1 f (hmem _ rfl hf)).1, fun hs => h2 (hmem _ rfl hs), fun f hf => (h1 f (hmem _ rfl hf)).2,
    hQ ▸ hl, hc⟩

theorem Wake.mono {k k' : K} (h : Wake k)
    (hwk : wakes k'.Q = wakes k.Q)
    (hcb : ∀ f, k'.futCb f = k.futCb f)
    (hw : k'.waiter = k.waiter) : Wake k' :=
  Wake.of_wakes k.Q hwk h.wd (fun f hf => ⟨hw.trans (h.wb1 f hf), hcb f ▸ h.wc f hf⟩) (fun hs => hw.trans (h.wb2 hs))
    (fun f hf => hw.trans (h.c f (hcb f ▸ hf)))

theorem Wake.noCb {k : K} (hp : Wake k) {x : Handle} (hx : x ∈ k.Q) (hw : x.isWake = true) (f : Nat) :
    k.futCb f ≠ .wakeup := fun hf => by
  have hwf := hp.c f hf
  cases x with
  | step => rw [hp.wb2 hx] at hwf; cases hwf
  | wakeup f' =>
    rw [hp.wb1 f' hx] at hwf
    cases hwf
    exact hp.wc _ hx hf
  | _ => cases hw

theorem inflight.mono {k k' : K} (h : inflight k) (hm : k.mustCancel = true → k'.mustCancel = true)
    (hw : k'.waiter = k.waiter) (hfs : ∀ f m, k.futState f = .cancelled m → k'.futState f = .cancelled m) : inflight k' :=
  Or.imp hm (fun ⟨f, m, h1, h2⟩ => ⟨f, m, hw.trans h1, hfs f m h2⟩) h

theorem Gd.of_inflight {k : K} (h : inflight k) : Gd k := fun _ => Or.inl h

theorem Gd.mono {k k' : K} (h : Gd k)
    (hsafe : safe k.Q = true → safe k'.Q = true)
    (hfs : ∀ f m, k.futState f = .cancelled m → k'.futState f = .cancelled m)
    (hw : k'.waiter = k.waiter) (hm : k.mustCancel = true → k'.mustCancel = true)
    (hfr : k'.frames = k.frames) : Gd k' := fun ⟨id, kd, fs, hfl⟩ =>
  (h ⟨id, kd, fs, hfr ▸ hfl⟩).imp (·.mono hm hw hfs) hsafe

theorem Parked.mono {k k' : K} (h : Parked k)
    (hwk : wakes k'.Q = wakes k.Q)
    (hsafe : safe k.Q = true → safe k'.Q = true)
    (hcb : ∀ f, k'.futCb f = k.futCb f) (hfs : ∀ f m, k.futState f = .cancelled m → k'.futState f = .cancelled m)
    (hw : k'.waiter = k.waiter) (hm : k.mustCancel = true → k'.mustCancel = true)
    (hfr : k'.frames = k.frames) : Parked k' :=
  ⟨h.w.mono hwk hcb hw, h.g.mono hsafe hfs hw hm hfr⟩

def Scope.coreView (x : Scope) := (x.active, x.cancelCalled)

def K.coreView (k : K) := (k.frames, k.batch, k.ready, k.timers, k.futs, k.delayed, k.bad)

theorem Core.congr {ms : List Handle} {k k' : K} (h : Core ms k) (hv : k'.coreView = k.coreView)
    (hs : ∀ s, (scopeOf k'.scopes s).coreView = (scopeOf k.scopes s).coreView) : Core ms k' := by
  simp only [K.coreView, Prod.mk.injEq] at hv
  obtain ⟨hfr, hb, hrd, hT, hfu, hd, hbad⟩ := hv
  have hQ : k'.Q = k.Q := by rw [K.Q, hb, hrd]; rfl
  exact h.mono (hfr ▸ h.sfF) (by rw [hfr]) (fun x hx => Or.inl (hQ ▸ hx)) (fun s hq => Or.inl (hQ ▸ hq)) (fun p hp => Or.inl (hT ▸ hp)) hd
    (fun s => congrArg Prod.fst (hs s)) (fun s hc => Or.inl ((congrArg Prod.snd (hs s)).symm.trans hc)) hbad
    (fun f o => by simpa only [K.futCb, hfu] using h.cbs f o)

/-- what `Wake` and `Running` read of the state; `Gd` reads the frames as well -/
def K.taskView (k : K) := (k.batch, k.ready, k.futs, k.waiter, k.mustCancel, k.done)

theorem Running.congr {k k' : K} (h : Running k) (hv : k'.taskView = k.taskView) : Running k' := by
  simp only [K.taskView, Prod.mk.injEq] at hv
  obtain ⟨hb, hrd, hfu, hw, hm, hd⟩ := hv
  exact h.mono (fun x hx => Or.inl (by rwa [K.Q, hb, hrd] at hx)) (fun f => by rw [K.futCb, hfu]; rfl) hw hm hd

theorem Parked.congr {k k' : K} (h : Parked k) (hv : k'.taskView = k.taskView) (hfr : k'.frames = k.frames) :
    Parked k' := by
  simp only [K.taskView, Prod.mk.injEq] at hv
  obtain ⟨hb, hrd, hfu, hw, hm, -⟩ := hv
  have hQ : k'.Q = k.Q := by rw [K.Q, hb, hrd]; rfl
  exact h.mono (by rw [hQ]) (by rw [hQ]; exact id) (fun f => by rw [K.futCb, hfu]; rfl)
    (fun f m hf => by rw [K.futState, hfu]; exact hf) hw (by rw [hm]; exact id) hfr

end EasyNet.CS

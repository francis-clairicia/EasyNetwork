/-
  C13 — interruption: the callbacks that run while the task is suspended (every callback other than the task's own
  wake-up) keep the invariant.
-/
import EasyNet.Lemmas.CSIntInv
namespace EasyNet.CS

theorem Core.callSoon {ms : List Handle} {k : K} (h : Core ms k) (x : Handle) (hx : x.sf = true)
    (hd : ∀ s, x = .deliver s → s ∈ scopeIds k.frames) : Core ms (k.callSoon x) :=
  h.mono h.sfF rfl (fun y hy => by
      rw [Q_callSoon] at hy
      rcases List.mem_append.mp hy with hy | hy
      · exact Or.inl hy
      · rw [List.mem_singleton.mp hy]; exact Or.inr ⟨hx, hd⟩)
    (fun s hs => Or.inl (by rw [Q_callSoon]; exact List.mem_append_left _ hs)) (fun _ hp => Or.inl hp) rfl (fun _ => rfl)
    (fun _ hs => Or.inl hs) rfl h.cbs

theorem Core.setFuts {ms : List Handle} {k k' : K} (h : Core ms k) (hk : k' = { k with futs := k'.futs })
    (hcb : ∀ f o, k'.futCb f ≠ .innerDone o) : Core ms k' := by
  rw [hk]
  exact h.mono h.sfF rfl (fun _ hy => Or.inl hy) (fun _ hs => Or.inl hs) (fun _ hp => Or.inl hp) rfl (fun _ => rfl)
    (fun _ hs => Or.inl hs) rfl hcb

theorem Core.updFut_cb {ms : List Handle} {k : K} (h : Core ms k) (f : Nat) (c : Cb) (hc : ∀ o, c ≠ .innerDone o) :
    Core ms (k.updFut f (fun x => { x with cb := c })) :=
  h.setFuts rfl fun f' o => by
    rw [futCb_updFut_cb]
    split
    · exact hc o
    · exact h.cbs f' o

theorem Core.updFut_state {ms : List Handle} {k : K} (h : Core ms k) (f : Nat) (st : FState) :
    Core ms (k.updFut f (fun x => { x with state := st })) :=
  h.setFuts rfl fun f' o => by rw [futCb_updFut_state]; exact h.cbs f' o

theorem Wake.updFut_state {k : K} (h : Wake k) (f : Nat) (st : FState) :
    Wake (k.updFut f (fun x => { x with state := st })) :=
  h.mono rfl (futCb_updFut_state k f · st) rfl

theorem Gd.updFut_state {k : K} (h : Gd k) (f : Nat) (st : FState) (hp : k.futState f = .pending) :
    Gd (k.updFut f (fun x => { x with state := st })) :=
  h.mono id (fun f' m hm => by
    rw [futState_updFut_state, if_neg fun c => by rw [c.1, hp] at hm; cases hm]
    exact hm) rfl id rfl

theorem scheduleCb_inv (k : K) (f : Nat) {ms : List Handle} (h : Core ms k) :
    Core ms (k.scheduleCb f) ∧ (Wake k → Wake (k.scheduleCb f)) ∧ (Gd k → Gd (k.scheduleCb f)) := by
  fun_cases K.scheduleCb k f
  · exact ⟨h, id, id⟩
  · rename_i hcb
    refine ⟨(h.updFut_cb f .none nofun).callSoon _ rfl nofun, fun hp => ?_, fun hg => hg.mono
      (fun hs => by rw [Q_callSoon]; exact safe_append _ _ hs) (fun f' m hm => (futState_updFut_cb k f f' .none).trans hm)
      rfl id rfl⟩
    -- the wake-up sits on the future, so no waking callback is queued yet
    have hnw : wakes k.Q = [] :=
      (wakes_nil_iff _).mpr fun x hx => Bool.eq_false_iff.mpr fun hw => hp.noCb hx hw f hcb
    have hfv : f < k.futs.length := futCb_valid k f (by rw [hcb]; nofun)
    refine Wake.of_wakes [.wakeup f] (by rw [Q_callSoon, Q_updFut, wakes_append, hnw]; rfl) (Nat.le_refl 1)
      (fun f' hf' => ?_) (fun hs => nomatch List.mem_singleton.mp hs) (fun f' hf' => ?_)
    · cases List.mem_singleton.mp hf'
      exact ⟨hp.c f hcb, by rw [futCb_callSoon, futCb_updFut_cb, if_pos ⟨rfl, hfv⟩]; nofun⟩
    · rw [futCb_callSoon, futCb_updFut_cb] at hf'
      split at hf'
      · cases hf'
      · exact hp.c f' hf'
  · rename_i o hcb
    exact absurd hcb (h.cbs f o)

theorem scheduleCb_futState (k : K) (f f' : Nat) : (k.scheduleCb f).futState f' = k.futState f' := by
  fun_cases K.scheduleCb k f <;> simp [futState_updFut_cb]

theorem futSetResult_inv (k : K) (f : Nat) {ms : List Handle} (h : Core ms k) :
    Core ms (k.futSetResult f) ∧ (Parked k → Parked (k.futSetResult f)) := by
  fun_cases K.futSetResult k f
  · rename_i hpend
    have := scheduleCb_inv _ f (h.updFut_state f .result)
    exact ⟨this.1, fun hp => ⟨this.2.1 (hp.w.updFut_state f _), this.2.2 (hp.g.updFut_state f _ hpend)⟩⟩
  · exact ⟨h, id⟩

theorem futCancel_inv (k : K) (f : Nat) (m : Msg) {ms : List Handle} (h : Core ms k) :
    Core ms (k.futCancel f m).1 ∧ (Wake k → Wake (k.futCancel f m).1) := by
  fun_cases K.futCancel k f m
  · have := scheduleCb_inv _ f (h.updFut_state f (.cancelled m))
    exact ⟨this.1, fun hp => this.2.1 (hp.updFut_state f _)⟩
  · exact ⟨h, id⟩

theorem Parked.setNum {k : K} (h : Parked k) (n : Nat) : Parked { k with numCancels := n } :=
  h.congr rfl rfl

theorem Parked.setMust {k : K} (h : Parked k) (n : Nat) (m : Msg) :
    Parked { k with numCancels := n, mustCancel := true, cancelMsg := m } :=
  h.mono rfl id (fun _ => rfl) (fun _ _ hm => hm) rfl (fun _ => rfl) rfl

theorem taskCancel_inv (k : K) (m : Msg) {ms : List Handle} (h : Core ms k) :
    Core ms (k.taskCancel m) ∧ (Wake k → Wake (k.taskCancel m)) := by
  fun_cases K.taskCancel k m
  case case1 => exact ⟨h, id⟩
  case case2 f _ _ =>
    have := futCancel_inv { k with numCancels := k.numCancels + 1 } f m (h.congr rfl fun _ => rfl)
    exact ⟨this.1, fun hp => this.2 (hp.mono rfl (fun _ => rfl) rfl)⟩
  case case3 => exact ⟨h.congr rfl fun _ => rfl, fun hp => hp.mono rfl (fun _ => rfl) rfl⟩
  case case4 => exact ⟨h.congr rfl fun _ => rfl, fun hp => hp.mono rfl (fun _ => rfl) rfl⟩

theorem futCancel_futState (k : K) (f : Nat) (m : Msg) (hp : k.futState f = .pending) :
    (k.futCancel f m).1.futState f = .cancelled m := by
  unfold K.futCancel
  simp only [hp]
  rw [scheduleCb_futState, futState_updFut_state, if_pos ⟨rfl, futState_pending_valid k f hp⟩]

theorem taskCancel_inflight (k : K) (m : Msg) (hnd : k.done = none) : inflight (k.taskCancel m) := by
  fun_cases K.taskCancel k m
  case case1 hd => rw [hnd] at hd; cases hd
  case case2 f hw hp => exact Or.inr ⟨f, m, by simpa using hw, futCancel_futState _ f m hp⟩
  case case3 => exact Or.inl rfl
  case case4 => exact Or.inl rfl

theorem taskCancel_Parked (k : K) (m : Msg) {ms : List Handle} (h : Core ms k) (hp : Wake k) (hnd : k.done = none) :
    Parked (k.taskCancel m) :=
  ⟨(taskCancel_inv k m h).2 hp, .of_inflight (taskCancel_inflight k m hnd)⟩

theorem taskCancel_stack_scopes (k : K) (m : Msg) (s : Nat) : scopeOf (k.taskCancel m).scopes s = scopeOf k.scopes s := by simp

theorem Core.updScope_harmless {ms : List Handle} {k : K} (h : Core ms k) (s : Nat) (g : Scope → Scope)
    (hg : ∀ x, (g x).coreView = x.coreView) : Core ms (k.updScope s g) :=
  h.congr rfl fun s' => scopeOf_updAt_proj Scope.coreView _ s s' g hg

theorem Parked.updScope {k : K} (h : Parked k) (s : Nat) (g : Scope → Scope) : Parked (k.updScope s g) :=
  h.congr rfl rfl

theorem Core.callSoon_deliver {ms : List Handle} {k : K} (h : Core ms k) (s : Nat) (hs : s ∈ scopeIds k.frames) :
    Core ms (k.callSoon (.deliver s)) :=
  h.callSoon _ rfl fun s' e => by cases e; exact hs

theorem Core.callSoon_deliver_back {k : K} {s : Nat} (h : Core [.deliver s] k) (hs : s ∈ scopeIds k.frames) :
    Core [] (k.callSoon (.deliver s)) := by
  refine (h.callSoon_deliver s hs).reown fun s' hm _ => Or.inl ?_
  cases List.mem_singleton.mp hm
  simp

theorem Parked.callSoon_deliver {k : K} (h : Parked k) (s : Nat) : Parked (k.callSoon (.deliver s)) :=
  h.mono (by rw [Q_callSoon, wakes_append]; exact List.append_nil _) (fun hs => by rw [Q_callSoon]; exact safe_append _ _ hs)
    (fun _ => rfl) (fun _ _ hm => hm) rfl id rfl

theorem bne_of_test {f : Handle → Bool} {x y : Handle} (hx : f x = false) (hy : f y = true) : (y != x) = true :=
  bne_iff_ne.mpr fun e => by rw [e, hx] at hy; cases hy

theorem Core.cancelHandle_other {ms : List Handle} {k : K} (h : Core ms k) (x : Handle) (hx : x.isDeliver = false) :
    Core ms (k.cancelHandle x) :=
  h.mono h.sfF rfl (fun y hy => Or.inl (by rw [Q_cancelHandle] at hy; exact (List.mem_filter.mp hy).1))
    (fun s hs => Or.inl (by rw [Q_cancelHandle]; exact List.mem_filter.mpr ⟨hs, bne_of_test (f := Handle.isDeliver) hx rfl⟩))
    (fun p hp => Or.inl (List.mem_filter.mp hp).1) rfl (fun _ => rfl) (fun _ hs => Or.inl hs) rfl h.cbs

theorem Core.cancelHandle_other' {ms : List Handle} {k : K} (h : Core ms k) (x : Handle) (hx : x.isDeliver = false) :
    Core ms (k.cancelHandle x) := h.cancelHandle_other x hx

theorem Parked.cancelHandle_other {k : K} (h : Parked k) (x : Handle) (hw : x.isWake = false) (hd : x.isDeliver = false) :
    Parked (k.cancelHandle x) :=
  h.mono
    (by rw [Q_cancelHandle]; exact wakes_filter _ _ (fun y hy => bne_of_test hw hy))
    (fun hs => by
      rw [Q_cancelHandle, safe_filter _ _ (fun y hy => hy.elim (bne_of_test hw) (bne_of_test hd))]
      exact hs)
    (fun _ => rfl) (fun _ _ hm => hm) rfl id rfl

/-- the loop runs `deliver s` (taken off the queue, the task is not the current one): the scope is on the stack, so
    it is active and the cancellation is (re-)issued; being in flight afterwards, it restores `Gd` -/
theorem deliverH_inv (k : K) (s : Nat) (h : Core [.deliver s] k) (hs : s ∈ scopeIds k.frames)
    (hp : k.done = none → Wake k) : PInv (k.deliver s false) := by
  fun_cases K.deliver k s false
  case case1 hna => rw [scope_eq, h.st s hs] at hna; cases hna
  case case2 hd => rw [h.nodelay] at hd; cases hd
  case case3 hd _ => rw [h.nodelay] at hd; cases hd
  case case4 =>
    -- task.cancel(msg)
    refine ⟨Core.callSoon_deliver_back ((((taskCancel_inv k _ h).1.updScope_harmless s _ (by intro; rfl)).updScope_harmless
      s _ (by intro; rfl))) (by simpa using hs), fun hnd => ?_⟩
    replace hnd : k.done = none := by simpa using hnd
    exact (((taskCancel_Parked k _ h (hp hnd) hnd).updScope s _).updScope s _).callSoon_deliver s
  case case5 hmc =>
    have hP : k.done = none → Parked k := fun hnd => ⟨hp hnd, .of_inflight (Or.inl (by simpa using hmc))⟩
    exact ⟨(h.updScope_harmless s _ (by intro; rfl)).callSoon_deliver_back hs,
      fun hnd => ((hP hnd).updScope s _).callSoon_deliver s⟩

theorem Q_setBatch (k : K) (rest : List Handle) : K.Q { k with batch := rest } = rest ++ k.ready := rfl

theorem Q_of_batch (k : K) (x : Handle) (rest : List Handle) (hb : k.batch = x :: rest) :
    k.Q = x :: K.Q { k with batch := rest } := by
  simp [K.Q, hb]

theorem Core.popBatch {k : K} {x : Handle} {rest : List Handle} (h : Core [] k) (hb : k.batch = x :: rest) :
    Core [x] { k with batch := rest } := by
  have hQ := Q_of_batch k x rest hb
  refine h.weaken.mono h.sfF rfl (fun y hy => Or.inl (by rw [hQ]; exact List.mem_cons_of_mem _ hy)) (fun s hs => ?_)
    (fun _ hp => Or.inl hp) rfl (fun _ => rfl) (fun _ hc => Or.inl hc) rfl h.cbs
  rw [hQ] at hs
  exact (List.mem_cons.mp hs).symm.imp id List.mem_singleton.mpr

theorem Core.popBatch_other {k : K} {x : Handle} {rest : List Handle} (h : Core [] k) (hb : k.batch = x :: rest)
    (hd : x.isDeliver = false) : Core [] { k with batch := rest } := by
  refine (h.popBatch hb).reown fun s hm _ => ?_
  cases List.mem_singleton.mp hm
  cases hd

theorem Wake.popBatch {k : K} {x : Handle} {rest : List Handle} (h : Wake k) (hb : k.batch = x :: rest)
    (hw : x.isWake = false) : Wake { k with batch := rest } :=
  h.mono (by rw [Q_of_batch k x rest hb]; simp [wakes, hw]) (fun _ => rfl) rfl

theorem Gd.popBatch {k : K} {x : Handle} {rest : List Handle} (h : Gd k) (hb : k.batch = x :: rest)
    (hw : x.isWake = false) (hd : x.isDeliver = false) : Gd { k with batch := rest } :=
  h.mono (fun hs => by rwa [Q_of_batch k x rest hb, safe_cons_other _ _ hw hd] at hs) (fun _ _ hm => hm) rfl id rfl

theorem Core.markCancelled {k : K} (h : Core [] k) (s : Nat) :
    Core [.deliver s] (k.updScope s (fun x => { x with cancelCalled := true })) :=
  h.weaken.mono h.sfF rfl (fun _ hx => Or.inl hx) (fun _ hs => Or.inl hs) (fun _ hp => Or.inl hp) rfl
    (fun s' => scopeOf_updAt_active _ _ _ _ (fun _ => rfl))
    (fun s' hc => by
      by_cases hss : s' = s
      · exact Or.inr (Or.inr (by rw [hss]; exact List.mem_singleton.mpr rfl))
      · exact Or.inl (by rwa [updScope_scopes_eq, scopeOf_updAt_ne _ _ _ _ hss] at hc))
    rfl h.cbs

theorem Core.markCancelled_off {k : K} (h : Core [] k) (s : Nat) (hs : s ∉ scopeIds k.frames) :
    Core [] (k.updScope s (fun x => { x with cancelCalled := true })) := by
  refine (h.markCancelled s).reown fun s' hm hs' => ?_
  cases List.mem_singleton.mp hm
  exact absurd (by simpa using hs') hs

theorem deliver_inactive (k : K) (s : Nat) (cur : Bool) (h : (k.scope s).active = false) : k.deliver s cur = k := by
  unfold K.deliver; simp [h]

theorem scopeCancelH_inv (k : K) (s : Nat) (hk : PInv k) : PInv (k.scopeCancel s false) := by
  fun_cases K.scopeCancel k s false
  · exact hk
  · obtain ⟨h, hp⟩ := hk
    have hP := fun hnd => (((hp hnd).updScope s fun x => { x with cancelCalled := true }).cancelHandle_other
      (.timeoutCancel s) rfl rfl).updScope s fun x => { x with timeoutH := false }
    by_cases hs : s ∈ scopeIds k.frames
    · -- the scope is active: the cancellation is issued right away
      exact deliverH_inv _ s (((h.markCancelled s).cancelHandle_other _ rfl).updScope_harmless s _ (by intro; rfl)) hs
        fun hnd => (hP hnd).w
    · -- not on the stack: not active, nothing is delivered
      rw [deliver_inactive]
      · exact ⟨((h.markCancelled_off s hs).cancelHandle_other _ rfl).updScope_harmless s _ (by intro; rfl), hP⟩
      · simp only [scope_eq, updScope_scopes_eq, cancelHandle_frame]
        rw [scopeOf_updAt_active _ _ _ _ (by intro; rfl), scopeOf_updAt_active _ _ _ _ (by intro; rfl)]
        exact Bool.eq_false_iff.mpr fun ha => hs (h.act s ha)

end EasyNet.CS

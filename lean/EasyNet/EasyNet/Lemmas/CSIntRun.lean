/-
  C13 — interruption: the scope operations executed by the task itself (the task is the current task) keep the
  invariant.
-/
import EasyNet.Lemmas.CSIntParked
namespace EasyNet.CS

theorem mem_insertTimer (x p : Nat × Int × Handle) (l : List (Nat × Int × Handle)) :
    p ∈ insertTimer x l ↔ p = x ∨ p ∈ l := by
  induction l with
  | nil => simp [insertTimer]
  | cons y ys ih =>
    unfold insertTimer
    split
    · rw [List.mem_cons, ih, List.mem_cons, or_left_comm]
    · rw [List.mem_cons]

theorem Core.callAt {ms : List Handle} {k : K} (h : Core ms k) (w : Nat) (p : Int) (x : Handle) (hx : x.isTimer = true) :
    Core ms (k.callAt w p x) :=
  h.mono h.sfF rfl (fun _ hy => Or.inl hy) (fun _ hs => Or.inl hs)
    (fun q hq => ((mem_insertTimer _ _ _).mp hq).symm.imp id fun (e : q = _) => e ▸ hx)
    rfl (fun _ => rfl) (fun _ hs => Or.inl hs) rfl h.cbs

theorem Run.emit {ms : List Handle} {k : K} (h : Run ms k) (e : Ev) : Run ms (k.emit e) :=
  ⟨h.core.congr rfl fun _ => rfl, h.running.congr rfl⟩

theorem Run.callAt {ms : List Handle} {k : K} (h : Run ms k) (w : Nat) (p : Int) (x : Handle) (hx : x.isTimer = true) :
    Run ms (k.callAt w p x) :=
  ⟨h.core.callAt w p x hx, h.running.congr rfl⟩

theorem Run.updScope_harmless {ms : List Handle} {k : K} (h : Run ms k) (s : Nat) (g : Scope → Scope)
    (hg : ∀ x, (g x).coreView = x.coreView) : Run ms (k.updScope s g) :=
  ⟨h.core.updScope_harmless s g hg, h.running.congr rfl⟩

theorem Running.cancelHandle {k : K} (h : Running k) (x : Handle) : Running (k.cancelHandle x) :=
  h.mono (fun y hy => Or.inl (by rw [Q_cancelHandle] at hy; exact (List.mem_filter.mp hy).1)) (fun _ => rfl) rfl rfl rfl

theorem Run.cancelHandle_other {ms : List Handle} {k : K} (h : Run ms k) (x : Handle) (hx : x.isDeliver = false) :
    Run ms (k.cancelHandle x) :=
  ⟨h.core.cancelHandle_other x hx, h.running.cancelHandle x⟩

theorem Run.markCancelled {k : K} (h : Run [] k) (s : Nat) :
    Run [.deliver s] (k.updScope s (fun x => { x with cancelCalled := true })) :=
  ⟨h.core.markCancelled s, h.running.congr rfl⟩

theorem Run.weaken {ms : List Handle} {k : K} (h : Run [] k) : Run ms k :=
  ⟨h.core.weaken, h.running⟩

theorem deliverCur_eq (k : K) (s : Nat) (hd : k.delayed = none) (ha : (scopeOf k.scopes s).active = true) :
    k.deliver s true = (k.updScope s (fun x => { x with cancelH := true })).callSoon (.deliver s) := by
  fun_cases K.deliver k s true
  case case1 hna => rw [scope_eq, ha] at hna; cases hna
  case case2 h => cases hd.symm.trans h
  case case3 h _ => cases hd.symm.trans h
  case case4 hc => simp at hc
  case case5 => rfl

theorem deliverCur_inv (k : K) (s : Nat) (h : Run [.deliver s] k) (hs : s ∈ scopeIds k.frames) :
    Run [] (k.deliver s true) := by
  rw [deliverCur_eq k s h.core.nodelay (h.core.st s hs)]
  refine ⟨(h.core.updScope_harmless s _ (by intro; rfl)).callSoon_deliver_back hs, h.running.mono (fun y hy => ?_)
    (fun _ => rfl) rfl rfl rfl⟩
  rw [Q_callSoon] at hy
  exact (List.mem_append.mp hy).imp id fun hy => by rw [List.mem_singleton.mp hy]; rfl

theorem scopeCancelCur_inv (k : K) (s : Nat) (h : Run [] k) (hs : s ∈ scopeIds k.frames) : Run [] (k.scopeCancel s true) := by
  fun_cases K.scopeCancel k s true
  · exact h
  · exact deliverCur_inv _ s (((h.markCancelled s).cancelHandle_other _ rfl).updScope_harmless s _ (by intro; rfl)) hs

theorem setupTimeoutCur_inv (k : K) (s : Nat) (h : Run [] k) (hs : s ∈ scopeIds k.frames) :
    Run [] (k.setupTimeout s true) := by
  fun_cases K.setupTimeout k s true
  · exact h
  · exact scopeCancelCur_inv k s h hs
  · exact (h.updScope_harmless s _ (by intro; rfl)).callAt _ _ _ rfl

theorem rescheduleCur_inv (k : K) (s : Nat) (w : Option Nat) (h : Run [] k) (hs : s ∈ scopeIds k.frames) :
    Run [] (k.reschedule s w true) := by
  fun_cases K.reschedule k s w true
  -- both branches start from the state with the new deadline and the old timer cancelled
  case' case1 => refine setupTimeoutCur_inv _ s ?_ hs
  all_goals exact ((h.updScope_harmless s _ (by intro; rfl)).cancelHandle_other _ rfl).updScope_harmless s _ (by intro; rfl)

theorem checkPendingFromCur_inv (k : K) (l : List Nat) (h : Run [] k) (hl : ∀ p ∈ l, p ∈ scopeIds k.frames) :
    Run [] (k.checkPendingFrom l) := by
  fun_induction K.checkPendingFrom k l
  · exact h
  · exact deliverCur_inv k _ h.weaken (hl _ List.mem_cons_self)
  · exact h
  · rename_i ih
    exact ih fun q hq => hl q (List.mem_cons_of_mem _ hq)

theorem checkPendingCur_inv (k : K) (h : Run [] k) : Run [] k.checkPending :=
  checkPendingFromCur_inv k _ h fun _ hp => hp

/-- the new scope's number is larger than those on the stack; if the scope was cancelled before `__enter__`, its
    re-delivery is still to be queued -/
theorem Core.enterScope {k : K} (h : Core [] k) (x : Scope) (to : Bool) (hx : x.active = true) :
    Core (if x.cancelCalled then [.deliver k.scopes.length] else [])
      { k with scopes := k.scopes ++ [x], frames := .scopeF k.scopes.length to :: k.frames } := by
  have hlt : ∀ s ∈ scopeIds k.frames, s < k.scopes.length := fun s hs => h.valid hs
  refine ⟨List.forall_mem_cons.mpr ⟨rfl, h.sfF⟩, h.sfQ, h.sfT, h.nodelay, List.pairwise_cons.mpr ⟨hlt, h.sorted⟩,
    fun s hs => ?_, fun s hs => ?_, fun s hs => List.mem_cons_of_mem _ (h.hq s hs), fun s hs hc => ?_, h.nbad, h.cbs⟩
  all_goals simp only [scopeOf_append_singleton] at *
  · rcases List.mem_cons.mp hs with rfl | hs
    · simpa using hx
    · rw [if_pos (hlt s hs)]; exact h.st s hs
  · split at hs
    · exact List.mem_cons_of_mem _ (h.act s hs)
    · split at hs
      · exact ‹s = _› ▸ List.mem_cons_self
      · cases hs
  · rcases List.mem_cons.mp hs with rfl | hs
    · right; simp at hc; simp [hc]
    · rw [if_pos (hlt s hs)] at hc
      exact Or.inl ((h.ha s hs hc).resolve_right nofun)

theorem scopeEnter_inv (k : K) (sid : Nat) (to : Bool) (delay : Option Nat) (pre : Bool) (h : Run [] k) :
    Run [] (k.scopeEnter sid to delay pre) := by
  have h1 := Run.mk (h.core.enterScope ⟨sid, true, pre, false, delay.map (k.now + ·), false, false, k.numCancels, 0⟩ to rfl)
    (h.running.congr rfl)
  cases pre
  · exact setupTimeoutCur_inv _ _ h1 List.mem_cons_self
  · exact deliverCur_inv _ _ h1 List.mem_cons_self

theorem uncancelLoop_scopeOf {α} (P : Scope → α) (hP : ∀ x c, P { x with calls := c } = P x) (k : K) (s : Nat) (m : Msg)
    (n s' : Nat) : P (scopeOf (k.uncancelLoop s m n).1.scopes s') = P (scopeOf k.scopes s') := by
  fun_induction K.uncancelLoop k s m n with
  | case1 => rfl
  | case2 => exact scopeOf_updAt_proj P _ s s' _ fun x => hP x _
  | case3 _ _ _ ih => exact ih.trans (scopeOf_updAt_proj P _ s s' _ fun x => hP x _)

theorem exitCatch_scopeOf {α} (P : Scope → α) (hP : ∀ x c b, P { x with caught := b, calls := c } = P x)
    (k : K) (s : Nat) (e : Option Exc) (s' : Nat) : P (scopeOf (k.exitCatch s e).scopes s') = P (scopeOf k.scopes s') := by
  have h1 : ∀ (l : List Scope) b, P (scopeOf (updAt l s (fun x => { x with caught := b })) s') = P (scopeOf l s') :=
    fun l b => scopeOf_updAt_proj P l s s' _ (fun x => hP x x.calls b)
  fun_cases K.exitCatch k s e
  · exact (h1 _ _).trans (uncancelLoop_scopeOf P (fun x c => hP x c x.caught) k s _ _ s')
  · exact h1 _ _
  · rfl

theorem dropOwnDelayed_none (k : K) (s : Nat) (h : k.delayed = none) : k.dropOwnDelayed s = k := by
  unfold K.dropOwnDelayed; simp [h]

theorem exitCancelled_inv (k : K) (s : Nat) (e : Option Exc) {ms : List Handle} (h : Run ms k) :
    Run ms (k.exitCancelled s e) := by
  have h1 : Run ms (k.exitCatch s e) :=
    ⟨h.core.congr (by simp [K.coreView]) (exitCatch_scopeOf Scope.coreView (fun _ _ _ => rfl) k s e),
      h.running.congr (by simp [K.taskView])⟩
  fun_cases K.exitCancelled k s e
  · rw [dropOwnDelayed_none _ _ (by simpa using h.core.nodelay)]
    exact ⟨h1.core.congr (by simp [K.coreView]) fun s' => scopeOf_updAt_proj Scope.coreView _ s s' _ fun _ => rfl,
      h1.running.congr (by simp [K.taskView])⟩
  · rw [dropOwnDelayed_none _ _ (by simpa using h.core.nodelay)]
    exact h1

theorem scopeExitCur_inv (k : K) (s : Nat) (to : Bool) (fs : List Frame) (e : Option Exc)
    (hk : k.frames = .scopeF s to :: fs) (hR : Run [] k) : Run [] (k.pop.scopeExit s e) := by
  have h := hR.core
  have hstack : scopeIds k.frames = s :: scopeIds fs := by rw [hk]; rfl
  have hsorted := h.sorted
  rw [hstack, List.pairwise_cons] at hsorted
  have hne : ∀ s' ∈ scopeIds fs, s' ≠ s := fun s' hs' e => Nat.lt_irrefl s (hsorted.1 s (e ▸ hs'))
  have hup : ∀ s' ∈ scopeIds fs, s' ∈ scopeIds k.frames := fun s' hs' => hstack ▸ List.mem_cons_of_mem _ hs'
  have hdown : ∀ s' ∈ scopeIds k.frames, s' ≠ s → s' ∈ scopeIds fs := fun s' hs' hn =>
    (List.mem_cons.mp (hstack ▸ hs')).resolve_left hn
  -- the state after the handles of the scope are cancelled and the scope is marked as left
  generalize hkA : (((k.pop.cancelHandle (.timeoutCancel s)).cancelHandle (.deliver s)).updScope s
      (fun x => { x with active := false, timeoutH := false, cancelH := false })) = kA
  have eF : kA.frames = fs := by subst hkA; simp [K.pop, hk]
  have eQ : ∀ x, x ∈ kA.Q ↔ x ∈ k.Q ∧ x ≠ .deliver s ∧ x ≠ .timeoutCancel s := by subst hkA; simp
  have eS : kA.scopes = updAt k.scopes s (fun x => { x with active := false, timeoutH := false, cancelH := false }) := by
    subst hkA; simp
  have hcA : Core [] kA := by
    refine ⟨fun fr hfr => h.sfF fr (by rw [hk]; exact List.mem_cons_of_mem _ (eF ▸ hfr)),
      fun x hx => h.sfQ x ((eQ x).mp hx).1, fun p hp => ?_, by subst hkA; simpa using h.nodelay, eF ▸ hsorted.2,
      fun s' hs' => ?_, fun s' hs' => ?_, fun s' hs' => ?_, fun s' hs' hc => ?_, by subst hkA; simpa using h.nbad,
      fun f o => by subst hkA; simpa [K.futCb] using h.cbs f o⟩
    · subst hkA
      simp only [K.updScope, K.cancelHandle, K.pop, List.mem_filter] at hp
      exact h.sfT p hp.1.1
    · rw [eF] at hs'
      rw [eS, scopeOf_updAt_ne _ _ _ _ (hne s' hs')]
      exact h.st s' (hup s' hs')
    · rw [eF]
      rw [eS] at hs'
      have hn : s' ≠ s := fun e => by
        rw [e, scopeOf_updAt_self_const (·.active) false _ _ _ (fun _ => rfl) rfl] at hs'
        cases hs'
      rw [scopeOf_updAt_ne _ _ _ _ hn] at hs'
      exact hdown s' (h.act s' hs') hn
    · rw [eF]
      have := (eQ _).mp hs'
      exact hdown s' (h.hq s' this.1) fun e => this.2.1 (e ▸ rfl)
    · rw [eF] at hs'
      rw [eS, scopeOf_updAt_ne _ _ _ _ (hne s' hs')] at hc
      exact Or.inl ((eQ _).mpr ⟨(h.ha s' (hup s' hs') hc).resolve_right nofun,
        fun e => hne s' hs' (Handle.deliver.inj e), nofun⟩)
  have hrA : Running kA := by
    subst hkA
    exact (((hR.running.congr (k' := k.pop) rfl).cancelHandle _).cancelHandle _).congr rfl
  unfold K.scopeExit
  rw [hkA]
  split
  · exact checkPendingCur_inv _ (exitCancelled_inv kA s e ⟨hcA, hrA⟩)
  · exact checkPendingCur_inv _ ⟨hcA, hrA⟩

end EasyNet.CS

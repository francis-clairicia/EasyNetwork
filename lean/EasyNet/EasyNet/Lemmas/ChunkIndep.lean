/-
  The byte-level reference decoder (`refDrain`, `refRecv`, `refRun`, `decodeW`) over a spec that satisfies
  the `SpecLaws`: its equations, what a consumer's `next` has to answer to be simulated by it (`Follows`), an induction
  principle that follows the frames, and chunking independence — if decoding the whole stream in one go reports no
  size error, every chunking of the same stream yields the same items and the same retained bytes.
-/
import EasyNet.Model.Spec
namespace EasyNet

structure SpecLaws (spec : Bytes → SRes) (ok : Bytes → Prop := fun _ => True) : Prop where
  /-- every delivered frame / size error consumes at least one byte -/
  progress_done : ∀ b d r, spec b = .done d r → r.length < b.length
  progress_fail : ∀ b r, spec b = .fail r → r.length < b.length
  /-- a complete frame stays the first frame when more bytes follow -/
  done_append : ∀ b x d r, spec b = .done d r → spec (b ++ x) = .done d (r ++ x)
  /-- a prefix of incomplete, acceptable data is incomplete and acceptable -/
  need_prefix : ∀ b x, spec (b ++ x) = .need → spec b = .need
  /-- a prefix of data that starts with an acceptable frame (`ok d`: safely within the limit) is never rejected
      for its size -/
  done_prefix : ∀ b x d r, spec (b ++ x) = .done d r → ok d → ∀ r', spec b ≠ .fail r'

/-- decode everything that is complete in `b` (adequate fuel) -/
def decodeW (spec : Bytes → SRes) (b : Bytes) : Bytes × List Item := refDrain spec (b.length + 1) b

def NoLimit (items : List Item) : Prop := ∀ it ∈ items, it ≠ Item.limit

def AllOk (ok : Bytes → Prop) (items : List Item) : Prop :=
  ∀ it ∈ items, match it with | .frame d => ok d | .limit => False

theorem AllOk_of_NoLimit (items : List Item) (h : NoLimit items) : AllOk (fun _ => True) items := by
  intro it hit
  cases it with
  | frame d => trivial
  | limit => exact h _ hit rfl

instance (items : List Item) : Decidable (NoLimit items) := by unfold NoLimit; infer_instance

/-- The reference decoder and both consumers treat a frame and a size error alike (deliver, go on with the rest):
    most arguments need only the cases `out = none` / `out = some (it, r)`. -/
def SRes.out : SRes → Option (Item × Bytes)
  | .need => none
  | .done d r => some (.frame d, r)
  | .fail r => some (.limit, r)

theorem SRes.out_eq_none {x : SRes} : x.out = none ↔ x = .need := by
  cases x <;> simp [SRes.out]

variable {spec : Bytes → SRes} {ok : Bytes → Prop}

theorem AllOk_map_frame {α : Type} (f : α → Bytes) (l : List α) (h : ∀ x ∈ l, ok (f x)) :
    AllOk ok (l.map fun x => .frame (f x)) := by
  intro it hit
  obtain ⟨x, hx, rfl⟩ := List.mem_map.mp hit
  exact h x hx

theorem AllOk.tail {it : Item} {items : List Item} (h : AllOk ok (it :: items)) : AllOk ok items :=
  fun x hx => h x (List.mem_cons_of_mem _ hx)

theorem refDrain_succ (spec : Bytes → SRes) (fuel : Nat) (b : Bytes) :
    refDrain spec (fuel + 1) b =
      if b.isEmpty then ([], [])
      else match (spec b).out with
        | none => (b, [])
        | some (it, r) => ((refDrain spec fuel r).1, it :: (refDrain spec fuel r).2) := by
  rw [refDrain]
  cases spec b <;> rfl

theorem refRecv_eq (spec : Bytes → SRes) (h c : Bytes) :
    refRecv spec h c =
      if (h ++ c).isEmpty then ([], [])
      else match (spec (h ++ c)).out with
        | none => (h ++ c, [])
        | some (it, r) => ((refDrain spec (r.length + 1) r).1, it :: (refDrain spec (r.length + 1) r).2) := by
  rw [refRecv]
  cases spec (h ++ c) <;> rfl

/-- The answer `a` (new state, item if any) of a consumer that has the bytes `b` to look at follows `spec`: no item
    while `b` is empty or incomplete, and `b` stays retained; otherwise the item the spec delivers, and the spec's
    remainder is retained (`Q`: how). -/
def Follows {κ : Type} (spec : Bytes → SRes) (Rel Q : κ → Bytes → Prop) (b : Bytes) (a : κ × Option Item) :
    Prop :=
  (b = [] ∨ spec b = .need → ∃ k, a = (k, none) ∧ Rel k b) ∧
  (b ≠ [] → ∀ it r, (spec b).out = some (it, r) → ∃ k, a = (k, some it) ∧ Rel k r ∧ Q k r)

theorem decodeW_of_need {b : Bytes} (h : spec b = .need) : decodeW spec b = (b, []) := by
  cases b with
  | nil => rfl
  | cons x xs => simp [decodeW, refDrain_succ, h, SRes.out]

theorem decodeW_of_held {b : Bytes} (h : b ≠ [] → spec b = .need) : decodeW spec b = (b, []) := by
  cases b with
  | nil => rfl
  | cons c cs => exact decodeW_of_need (h (List.cons_ne_nil c cs))

/-- the part of `SpecLaws` that the fuel and unfolding facts about the reference decoder need -/
structure ProgLaws (spec : Bytes → SRes) : Prop where
  progress_done : ∀ b d r, spec b = .done d r → r.length < b.length
  progress_fail : ∀ b r, spec b = .fail r → r.length < b.length

theorem SpecLaws.prog (L : SpecLaws spec ok) : ProgLaws spec := ⟨L.progress_done, L.progress_fail⟩

namespace ProgLaws
variable (P : ProgLaws spec)
include P

theorem out_lt {b r : Bytes} {it : Item} (h : (spec b).out = some (it, r)) : r.length < b.length := by
  cases hs : spec b with
  | need => rw [hs] at h; cases h
  | done d r' => rw [hs] at h; cases h; exact P.progress_done b d r hs
  | fail r' => rw [hs] at h; cases h; exact P.progress_fail b r hs

theorem refDrain_fuel_eq (f₁ f₂ : Nat) (b : Bytes) (h₁ : b.length < f₁) (h₂ : b.length < f₂) :
    refDrain spec f₁ b = refDrain spec f₂ b := by
  induction f₁ generalizing f₂ b with
  | zero => exact absurd h₁ (Nat.not_lt_zero _)
  | succ f₁ ih =>
    cases f₂ with
    | zero => exact absurd h₂ (Nat.not_lt_zero _)
    | succ f₂ =>
      rw [refDrain_succ, refDrain_succ]
      cases hs : (spec b).out with
      | none => rfl
      | some x =>
        have hp := P.out_lt hs
        simp only [ih f₂ x.2 (Nat.lt_of_lt_of_le hp (Nat.le_of_lt_succ h₁)) (Nat.lt_of_lt_of_le hp (Nat.le_of_lt_succ h₂))]

theorem refDrain_fuel (fuel : Nat) (b : Bytes) (h : b.length + 1 ≤ fuel) :
    refDrain spec fuel b = refDrain spec (b.length + 1) b :=
  P.refDrain_fuel_eq _ _ b h (Nat.lt_succ_self _)

theorem decodeW_of_out {b r : Bytes} {it : Item} (h : (spec b).out = some (it, r)) :
    decodeW spec b = ((decodeW spec r).1, it :: (decodeW spec r).2) := by
  have hp := P.out_lt h
  have hb : b.isEmpty = false := by cases b with | nil => simp at hp | cons x xs => rfl
  simp only [decodeW, refDrain_succ, hb, h, P.refDrain_fuel b.length r hp]
  rfl

theorem decodeW_of_done {b d r : Bytes} (h : spec b = .done d r) :
    decodeW spec b = ((decodeW spec r).1, .frame d :: (decodeW spec r).2) :=
  P.decodeW_of_out (by rw [h]; rfl)

theorem decodeW_of_fail {b r : Bytes} (h : spec b = .fail r) :
    decodeW spec b = ((decodeW spec r).1, .limit :: (decodeW spec r).2) :=
  P.decodeW_of_out (by rw [h]; rfl)

theorem decodeW_frames {α : Type} (enc item : α → Bytes) (l : List α)
    (hl : ∀ x ∈ l, ∀ rest, spec (enc x ++ rest) = .done (item x) rest) (h : Bytes) (hh : h = [] ∨ spec h = .need) :
    decodeW spec ((l.map enc).flatten ++ h) = (h, l.map fun x => .frame (item x)) := by
  induction l with
  | nil => exact decodeW_of_held hh.resolve_left
  | cons x l ih =>
    obtain ⟨hx, hl⟩ := List.forall_mem_cons.mp hl
    rw [List.map_cons, List.flatten_cons, List.append_assoc, P.decodeW_of_done (hx _), ih hl]
    rfl

theorem decodeW_map_frames {α : Type} (enc item : α → Bytes) (l : List α)
    (hl : ∀ x ∈ l, ∀ rest, spec (enc x ++ rest) = .done (item x) rest) :
    decodeW spec (l.map enc).flatten = ([], l.map fun x => .frame (item x)) := by
  have := P.decodeW_frames enc item l hl [] (.inl rfl)
  rwa [List.append_nil] at this

theorem refRecv_eq_decodeW (h c : Bytes) : refRecv spec h c = decodeW spec (h ++ c) := by
  rw [refRecv_eq]
  cases hb : (h ++ c).isEmpty with
  | true => rw [List.isEmpty_iff.mp hb]; rfl
  | false =>
    cases hs : (spec (h ++ c)).out with
    | none => exact (decodeW_of_need (SRes.out_eq_none.mp hs)).symm
    | some x => exact (P.decodeW_of_out hs).symm

theorem decodeW_induction {motive : Bytes → Prop}
    (need : ∀ b, spec b = .need → motive b)
    (out : ∀ b it r, (spec b).out = some (it, r) → motive r → motive b) (b : Bytes) : motive b := by
  induction hn : b.length using Nat.strongRecOn generalizing b with
  | _ n ih =>
    cases hs : (spec b).out with
    | none => exact need b (SRes.out_eq_none.mp hs)
    | some x => exact out b x.1 x.2 hs (ih _ (hn ▸ P.out_lt hs) _ rfl)

theorem decodeW_held (b : Bytes) : (decodeW spec b).1 = [] ∨ spec (decodeW spec b).1 = .need := by
  induction b using P.decodeW_induction with
  | need b hs => rw [decodeW_of_need hs]; exact Or.inr hs
  | out b it r hs ih => rw [P.decodeW_of_out hs]; exact ih

theorem decodeW_length_le (b : Bytes) : (decodeW spec b).2.length + (decodeW spec b).1.length ≤ b.length := by
  induction b using P.decodeW_induction with
  | need b hs => rw [decodeW_of_need hs]; exact Nat.le_of_eq (Nat.zero_add _)
  | out b it r hs ih =>
    have := P.out_lt hs
    rw [P.decodeW_of_out hs]; simp only [List.length_cons]; omega

theorem refRun_held (cs : List Bytes) (h : Bytes) (hh : h = [] ∨ spec h = .need) :
    (refRun spec h cs).1 = [] ∨ spec (refRun spec h cs).1 = .need := by
  induction cs generalizing h with
  | nil => exact hh
  | cons c cs ih => exact ih _ (P.refRecv_eq_decodeW h c ▸ P.decodeW_held _)

theorem refRun_length_le (cs : List Bytes) (h : Bytes) :
    (refRun spec h cs).2.length + (refRun spec h cs).1.length ≤ h.length + cs.flatten.length := by
  induction cs generalizing h with
  | nil => exact Nat.le_of_eq (Nat.zero_add _)
  | cons c cs ih =>
    have h1 := P.decodeW_length_le (h ++ c)
    have h2 := ih (refRecv spec h c).1
    rw [← P.refRecv_eq_decodeW, List.length_append] at h1
    simp only [refRun, List.length_append, List.flatten_cons]
    omega

end ProgLaws

theorem decodeW_unfold (L : SpecLaws spec ok) (b : Bytes) :
    decodeW spec b =
      if b.isEmpty then ([], [])
      else match spec b with
        | .need => (b, [])
        | .done d r => ((decodeW spec r).1, .frame d :: (decodeW spec r).2)
        | .fail r => ((decodeW spec r).1, .limit :: (decodeW spec r).2) := by
  cases hb : b.isEmpty with
  | true => rw [List.isEmpty_iff.mp hb]; rfl
  | false =>
    cases hs : spec b with
    | need => exact decodeW_of_need hs
    | done d r => exact L.prog.decodeW_of_done hs
    | fail r => exact L.prog.decodeW_of_fail hs

theorem decodeW_congr {spec₁ spec₂ : Bytes → SRes} (P₁ : ProgLaws spec₁) (P₂ : ProgLaws spec₂)
    (hneed : ∀ b, spec₂ b = .need → spec₁ b = .need)
    (hdone : ∀ b d r, spec₂ b = .done d r → ok d → spec₁ b = .done d r)
    (S : Bytes) (hok : AllOk ok (decodeW spec₂ S).2) : decodeW spec₁ S = decodeW spec₂ S := by
  induction S using P₂.decodeW_induction with
  | need b hs => rw [decodeW_of_need hs, decodeW_of_need (hneed b hs)]
  | out b it r hs ih =>
    cases hb : spec₂ b with
    | need => rw [hb] at hs; cases hs
    | done d r' =>
      obtain rfl : r' = r := by rw [hb] at hs; cases hs; rfl
      rw [P₂.decodeW_of_done hb] at hok ⊢
      rw [P₁.decodeW_of_done (hdone b d r' hb (hok _ (List.mem_cons_self ..))), ih hok.tail]
    | fail r' =>
      rw [P₂.decodeW_of_fail hb] at hok
      exact (hok _ (List.mem_cons_self ..)).elim

theorem decodeW_append (L : SpecLaws spec ok) (b y : Bytes) (hno : AllOk ok (decodeW spec (b ++ y)).2) :
    decodeW spec (b ++ y) =
      ((decodeW spec ((decodeW spec b).1 ++ y)).1, (decodeW spec b).2 ++ (decodeW spec ((decodeW spec b).1 ++ y)).2) := by
  induction b using L.prog.decodeW_induction with
  | need b hs => rw [decodeW_of_need hs]; rfl
  | out b it r hs ih =>
    cases hb : spec b with
    | need => rw [hb] at hs; cases hs
    | done d r' =>
      obtain ⟨rfl, rfl⟩ : Item.frame d = it ∧ r' = r := by rw [hb] at hs; cases hs; exact ⟨rfl, rfl⟩
      have hby := L.prog.decodeW_of_done (L.done_append b y d r' hb)
      rw [hby] at hno ⊢
      rw [ih hno.tail, L.prog.decodeW_of_done hb]
      rfl
    | fail r' =>
      -- a size error on the prefix would show in the one-go decoding
      exfalso
      cases hby : spec (b ++ y) with
      | need => rw [L.need_prefix b y hby] at hb; cases hb
      | done d r'' =>
        rw [L.prog.decodeW_of_done hby] at hno
        exact L.done_prefix b y d r'' hby (hno _ (List.mem_cons_self ..)) r' hb
      | fail r'' =>
        rw [L.prog.decodeW_of_fail hby] at hno
        exact hno _ (List.mem_cons_self ..)

theorem refRun_chunk_independent (L : SpecLaws spec ok) (cs : List Bytes) (h : Bytes)
    (hheld : h = [] ∨ spec h = .need) (hno : AllOk ok (decodeW spec (h ++ cs.flatten)).2) :
    refRun spec h cs = decodeW spec (h ++ cs.flatten) := by
  induction cs generalizing h with
  | nil =>
    rw [List.flatten_nil, List.append_nil]
    rcases hheld with rfl | hn
    · rfl
    · exact (decodeW_of_need hn).symm
  | cons c cs ih =>
    rw [List.flatten_cons, ← List.append_assoc] at hno ⊢
    have hcomp := decodeW_append L (h ++ c) cs.flatten hno
    rw [hcomp] at hno
    rw [refRun, L.prog.refRecv_eq_decodeW, ih _ (L.prog.decodeW_held _) (fun it hit => hno it (List.mem_append_right _ hit)), hcomp]

end EasyNet

/-
  Time budget of whole calls: one `_retry`, `receive`, `send_packet`, the lock of the clients (`withLock`, `CallFin.underLock`),
  `client.recv_packet` / `client.send_packet` and the datagram client — composed from the machine invariants of
  Lemmas/TimeMachines.lean; the arithmetic of the packet iterator.  Lock discipline: who logs a `lock.release()`.
-/
import EasyNet.Lemmas.TimeMachines
import EasyNet.Lemmas.SendData
namespace EasyNet

/-- what holds when a call with the finite timeout `tv` that started in `w0` has ended in `w` -/
structure CallFin (tv : Nat) (w0 w : World) (isTimeout : Bool) : Prop where
  budget : w.waited + w.lockw ≤ w0.waited + w0.lockw + tv
  unb : w.unbounded = w0.unbounded
  acct : w.now + w0.acct = w0.now + w.acct
  monoW : w0.waited ≤ w.waited
  monoL : w0.lockw ≤ w.lockw
  zero : tv = 0 → w.nsel = w0.nsel ∧ w.nlockw = w0.nlockw
  slack : w0.now + (w.waited + w.lockw) ≤ w.now + (w0.waited + w0.lockw)
  spent : isTimeout = true → w0.now + tv ≤ w.now

theorem GoodFin.toCall {tv : Nat} {w0 w : World} {b : Bool} (h : GoodFin (w0.waited + tv) (w0.now + tv) w0 w b) :
    CallFin tv w0 w b :=
  ⟨by have := h.budget; have := h.lockw; omega, h.unb, h.acct, h.mono, Nat.le_of_eq h.lockw.symm,
   fun h0 => ⟨h.zero (by omega), h.nlw⟩, by have := h.slack; have := h.lockw; omega, h.spent⟩

theorem GoodFin.elapsed {B D : Nat} {w0 w : World} {b : Bool} (h : GoodFin B D w0 w b) :
    w.now + (w0.waited + w0.over + w0.proc) = w0.now + (w.waited + w.over + w.proc) := by
  have ha := h.acct; have := h.unb; have := h.lockw
  simp only [World.acct] at ha; omega

theorem CallFin.elapsed {tv : Nat} {w0 w : World} {b : Bool} (h : CallFin tv w0 w b) :
    w.now + (w0.waited + w0.lockw + w0.over + w0.proc) = w0.now + (w.waited + w.lockw + w.over + w.proc) := by
  have ha := h.acct; have := h.unb
  simp only [World.acct] at ha; omega

/-- releasing the lock when the `with` block is left costs no time and is neither a select() nor a lock wait -/
theorem CallFin.release {tv : Nat} {w0 w : World} {b : Bool} (h : CallFin tv w0 w b) : CallFin tv w0 w.lockRelease b :=
  { h with zero := fun h0 => h.zero h0 }

theorem CallFin.refl (w : World) (b : Bool) : CallFin 0 w w b :=
  ⟨Nat.le_refl _, rfl, rfl, Nat.le_refl _, Nat.le_refl _, fun _ => ⟨rfl, rfl⟩, Nat.le_refl _, fun _ => Nat.le_refl _⟩

theorem retry_call (cls : SockEv → Cls) (o : Obs) (ho : o.isSelect = false) (hl : o.isLockWait = false) (ri : Tmo)
    (sock : List SockCall) (tv : Nat) (w : World) :
    GoodFin (w.waited + tv) (w.now + tv) w (retry cls o ri sock (some tv) w).w
      (retry cls o ri sock (some tv) w).out.isTimeout :=
  retry_good ho hl (Good.init w tv)

theorem receive_good {κ : Type} (fl : Flavour) (ri : Tmo) (room : κ → Nat) (next : κ → Bytes → κ × Option Item)
    (cons : κ) (eof : Bool) (tv : Nat) (sock : List SockCall) (w : World) :
    GoodFin (w.waited + tv) (w.now + tv) w (receive fl ri room next cons eof (some tv) sock w).w
      (receive fl ri room next cons eof (some tv) sock w).out.isTimeout := by
  unfold receive
  rcases next cons [] with ⟨cons', _ | it⟩
  · cases eof with
    | true => exact (Good.init w tv).fin
    | false => exact recvLoop_good (Good.init w tv)
  · exact (Good.init w tv).fin

theorem sendPacket_good (tr : Transport) (fix : Bool) (iov : Int) (ri : Tmo) (chunks : List Bytes) (tv : Nat)
    (sock : List SockCall) (w : World) :
    GoodFin (w.waited + tv) (w.now + tv) w (sendPacket tr fix iov ri chunks (some tv) sock w).2
      (sendPacket tr fix iov ri chunks (some tv) sock w).1.isTimeout :=
  sendPacket_cases (P := fun r => GoodFin (w.waited + tv) (w.now + tv) w r.2 r.1.isTimeout)
    (fun _ => sendAllLoop_good (Good.init w tv))
    (fun _ => sendmsgLoop_good (Good.init w tv))

/-- `w'` is `w` after `d` ticks spent acquiring a lock with the timeout `tv` -/
structure World.Locked (w w' : World) (tv d : Nat) : Prop where
  now : w'.now = w.now + d
  lockw : w'.lockw = w.lockw + d
  waited : w'.waited = w.waited
  unb : w'.unbounded = w.unbounded
  acct : w'.acct = w.acct + d
  nsel : w'.nsel = w.nsel
  nlw : tv = 0 → w'.nlockw = w.nlockw

theorem World.Locked.lockTry (w : World) (tv : Nat) : World.Locked w w.lockTry tv 0 :=
  ⟨rfl, rfl, rfl, rfl, rfl, List.countP_cons_of_neg (by simp [Obs.isSelect]),
   fun _ => List.countP_cons_of_neg (by simp [Obs.isLockWait])⟩

theorem World.Locked.afterLock (w : World) {tv : Nat} (d : Nat) (h0 : tv ≠ 0) :
    World.Locked w (w.lockTry.afterLock tv d) tv d :=
  ⟨rfl, rfl, rfl, rfl, by simp only [World.acct, World.afterLock, World.lockTry]; omega,
   (List.countP_cons_of_neg (by simp [Obs.isSelect])).trans (World.Locked.lockTry w tv).nsel, fun h => absurd h h0⟩

theorem CallFin.afterLock {d tv' : Nat} {w w' w'' : World} {b : Bool} (hl : World.Locked w w' (d + tv') d)
    (h : CallFin tv' w' w'' b) : CallFin (d + tv') w w'' b := by
  refine ⟨?_, hl.unb ▸ h.unb, ?_, hl.waited ▸ h.monoW, ?_, fun h0 => ?_, ?_, fun hb => ?_⟩
  · have := h.budget; have := hl.lockw; have := hl.waited; omega
  · have := h.acct; have := hl.now; have := hl.acct; omega
  · have := h.monoL; have := hl.lockw; omega
  · obtain ⟨z1, z2⟩ := h.zero (Nat.eq_zero_of_add_eq_zero_left h0)
    exact ⟨z1.trans hl.nsel, z2.trans (hl.nlw h0)⟩
  · have := h.slack; have := hl.now; have := hl.lockw; have := hl.waited; omega
  · have := h.spent hb; have := hl.now; omega

theorem World.Locked.timeout {w w' : World} {tv : Nat} (h : World.Locked w w' tv tv) : CallFin tv w w' true :=
  CallFin.afterLock h (.refl w' true)

theorem lockWithTimeout_facts (ev : LockEv) (tv : Nat) (w : World) :
    match lockWithTimeout ev (some tv) w with
    | .acquired t' w' => ∃ d tv', tv = d + tv' ∧ t' = some tv' ∧ World.Locked w w' tv d
    | .timeout w' => CallFin tv w w' true := by
  unfold lockWithTimeout
  cases ev with
  | free => exact ⟨0, tv, (Nat.zero_add _).symm, rfl, .lockTry w tv⟩
  | busy d =>
    dsimp only
    by_cases h0 : tv = 0
    · rw [if_pos h0]; subst h0; exact (World.Locked.lockTry w 0).timeout
    · rw [if_neg h0]
      by_cases hd : d ≤ tv
      · rw [if_pos hd]; exact ⟨d, tv - d, by omega, rfl, .afterLock w d h0⟩
      · rw [if_neg hd]; exact (World.Locked.afterLock w tv h0).timeout

/-- `with lock_with_timeout(lock, t) as t': body(t')`, the statement all four client calls consist of (`lk = none`: the bare
    body).  `fail w'` is the result of the call when the lock is not obtained in time, `leave r` its result when the body ended
    with `r` and the block is left. -/
def withLock {α : Type} (lk : Option LockEv) (t : Tmo) (w : World) (body : Tmo → World → α) (fail : World → α)
    (leave : α → α) : α :=
  match lk with
  | none => body t w
  | some ev =>
    match lockWithTimeout ev t w with
    | .timeout w' => fail w'
    | .acquired t' w' => leave (body t' w')

/-- `world r` is the world a result `r` ends in, `timedOut r` says whether it is a TimeoutError. -/
theorem CallFin.underLock {α : Type} {body : Tmo → World → α} {fail : World → α} {leave : α → α}
    (world : α → World) (timedOut : α → Bool)
    (hbody : ∀ tv w, CallFin tv w (world (body (some tv) w)) (timedOut (body (some tv) w)))
    (hfail : ∀ w, world (fail w) = w ∧ timedOut (fail w) = true)
    (hleave : ∀ r, world (leave r) = (world r).lockRelease ∧ timedOut (leave r) = timedOut r)
    (lk : Option LockEv) (tv : Nat) (w : World) :
    CallFin tv w (world (withLock lk (some tv) w body fail leave))
      (timedOut (withLock lk (some tv) w body fail leave)) := by
  unfold withLock
  cases lk with
  | none => exact hbody tv w
  | some ev =>
    have hl := lockWithTimeout_facts ev tv w
    dsimp only
    generalize lockWithTimeout ev (some tv) w = r at hl ⊢
    cases r with
    | timeout w' => dsimp only; rw [(hfail w').1, (hfail w').2]; exact hl
    | acquired t' w' =>
      obtain ⟨d, tv', rfl, rfl, hlk⟩ := hl
      dsimp only
      rw [(hleave _).1, (hleave _).2]
      exact ((hbody _ _).afterLock hlk).release

theorem clientErr_isTimeout (o : RecvOut) : (clientErr o).isTimeout = o.isTimeout := by
  cases o with
  | err e => cases e <;> rfl
  | _ => rfl

theorem clientErrS_isTimeout (o : Outcome) : (clientErrS o).isTimeout = o.isTimeout := by
  cases o with
  | err e => cases e <;> rfl
  | _ => rfl

theorem clientRecv_fin {κ : Type} (fl : Flavour) (ri : Tmo) (room : κ → Nat) (next : κ → Bytes → κ × Option Item)
    (lk : Option LockEv) (cons : κ) (eof : Bool) (tv : Nat) (sock : List SockCall) (w : World) :
    CallFin tv w (clientRecv fl ri room next lk cons eof (some tv) sock w).w
      (clientRecv fl ri room next lk cons eof (some tv) sock w).out.isTimeout :=
  CallFin.underLock (body := (receive fl ri room next cons eof · sock ·)) (fail := (⟨.timeout, cons, eof, ·⟩))
    (leave := fun r => ⟨clientErr r.out, r.cons, r.eof, r.w.lockRelease⟩) (·.w) (·.out.isTimeout)
    (fun tv w => (receive_good fl ri room next cons eof tv sock w).toCall) (fun _ => ⟨rfl, rfl⟩)
    (fun r => ⟨rfl, clientErr_isTimeout r.out⟩) lk tv w

theorem clientSend_fin (tr : Transport) (fix : Bool) (iov : Int) (ri : Tmo) (lk : Option LockEv) (chunks : List Bytes)
    (tv : Nat) (sock : List SockCall) (w : World) :
    CallFin tv w (clientSend tr fix iov ri lk chunks (some tv) sock w).2
      (clientSend tr fix iov ri lk chunks (some tv) sock w).1.isTimeout :=
  CallFin.underLock (body := (sendPacket tr fix iov ri chunks · sock ·)) (fail := ((.timeout, ·)))
    (leave := fun r => (clientErrS r.1, r.2.lockRelease)) (·.2) (·.1.isTimeout)
    (fun tv w => (sendPacket_good tr fix iov ri chunks tv sock w).toCall) (fun _ => ⟨rfl, rfl⟩)
    (fun r => ⟨rfl, clientErrS_isTimeout r.1⟩) lk tv w

theorem udpClientRecv_fin (ri : Tmo) (bufsize : Nat) (lk : Option LockEv) (tv : Nat) (sock : List SockCall) (w : World) :
    CallFin tv w (udpClientRecv ri bufsize lk (some tv) sock w).w
      (udpClientRecv ri bufsize lk (some tv) sock w).out.isTimeout :=
  CallFin.underLock (body := (dgramRecv ri bufsize · sock ·)) (fail := (⟨.timeout, .bad, some tv, sock, ·⟩))
    (leave := fun r => { r with w := r.w.lockRelease }) (·.w) (·.out.isTimeout)
    (fun tv w => (retry_call (classifyRecv .plain) (.rcall bufsize) rfl rfl ri sock tv w).toCall)
    (fun _ => ⟨rfl, rfl⟩) (fun _ => ⟨rfl, rfl⟩) lk tv w

theorem udpClientSend_fin (ri : Tmo) (data : Bytes) (lk : Option LockEv) (tv : Nat) (sock : List SockCall) (w : World) :
    CallFin tv w (udpClientSend ri data lk (some tv) sock w).w
      (udpClientSend ri data lk (some tv) sock w).out.isTimeout :=
  CallFin.underLock (body := (dgramSend ri data · sock ·)) (fail := (⟨.timeout, .bad, some tv, sock, ·⟩))
    (leave := fun r => { r with w := r.w.lockRelease }) (·.w) (·.out.isTimeout)
    (fun tv w => (retry_call (classifySend .plain) (.call data.length 1) rfl rfl ri sock tv w).toCall)
    (fun _ => ⟨rfl, rfl⟩) (fun _ => ⟨rfl, rfl⟩) lk tv w

/-- when the lock is not obtained within the budget the socket is never touched (datagram client) -/
theorem udpClient_lock_timeout_no_io (ri : Tmo) (bufsize : Nat) (data : Bytes) (ev : LockEv) (t : Tmo)
    (sock : List SockCall) (w w' : World) (h : lockWithTimeout ev t w = .timeout w') :
    (udpClientRecv ri bufsize (some ev) t sock w).out = .timeout ∧ (udpClientRecv ri bufsize (some ev) t sock w).rest = sock ∧
    (udpClientRecv ri bufsize (some ev) t sock w).w = w' ∧
    (udpClientSend ri data (some ev) t sock w).out = .timeout ∧ (udpClientSend ri data (some ev) t sock w).rest = sock ∧
    (udpClientSend ri data (some ev) t sock w).w = w' := by
  simp [udpClientRecv, udpClientSend, h]

/-- a call within `tv` that lasted from `n` to `n'` (and cannot have waited longer than it lasted), then a run within what
    `recompute_timeout` leaves -/
theorem budget_carry {W W' W'' tv n n' : Nat} (hb : W' ≤ W + tv) (hs : n + W' ≤ n' + W) (hr : W'' ≤ W' + (tv - (n' - n))) :
    W'' ≤ W + tv := by omega

def Obs.isRelease : Obs → Bool
  | .lockRelease => true
  | _ => false

def World.nrel (w : World) : Nat := w.log.countP Obs.isRelease

theorem World.Selected.nrel {w w₁ w' : World} (hc : w₁.nrel = w.nrel) (h : w' = w₁ ∨ World.Selected w₁ w') : w'.nrel = w.nrel := by
  rcases h with rfl | h
  · exact hc
  · obtain ⟨b, t, hl⟩ := h.log
    rw [World.nrel, hl]; exact (List.countP_cons_of_neg (by simp [Obs.isRelease])).trans hc

/-- one `_retry` never releases a lock -/
theorem retry_nrel (cls : SockEv → Cls) (o : Obs) (ho : o.isRelease = false) (ri : Tmo) :
    ∀ (sock : List SockCall) (t : Tmo) (w : World), (retry cls o ri sock t w).w.nrel = w.nrel := by
  intro sock
  induction sock with
  | nil => intro t w; rfl
  | cons c rest ih =>
    intro t w
    have hc : (w.afterCall o c.p).nrel = w.nrel := List.countP_cons_of_neg (by simp [ho])
    unfold retry
    cases cls c.ev with
    | block b =>
      dsimp only
      cases hr : retryWait ri b t _ with
      | cont t' w' => exact (ih t' w').trans (World.Selected.nrel hc (.inr (retryWait_selected hr)))
      | _ => exact World.Selected.nrel hc (retryWait_selected hr)
    | _ => exact hc

theorem lockWithTimeout_nrel (ev : LockEv) (t : Tmo) (w : World) :
    match lockWithTimeout ev t w with
    | .acquired _ w' => w'.nrel = w.nrel
    | .timeout w' => w'.nrel = w.nrel := by
  unfold lockWithTimeout
  cases t with
  | none => simp [World.nrel, World.afterLockU, Obs.isRelease]
  | some tv =>
    cases ev with
    | free => simp [World.nrel, World.lockTry, Obs.isRelease]
    | busy d =>
      simp only []
      by_cases h0 : tv = 0
      · simp [h0, World.nrel, World.lockTry, Obs.isRelease]
      · by_cases hd : d ≤ tv <;>
          simp [h0, hd, World.nrel, World.lockTry, World.afterLock, Obs.isRelease]

theorem World.nrel_lockRelease (w : World) : w.lockRelease.nrel = w.nrel + 1 :=
  List.countP_cons_of_pos rfl

/-- the datagram client releases its lock exactly once when it got it (the release is the last thing the call does),
    never when it did not -/
theorem udpClient_release_count (ri : Tmo) (bufsize : Nat) (data : Bytes) (ev : LockEv) (t : Tmo) (sock : List SockCall) (w : World) :
    (match lockWithTimeout ev t w with
     | .acquired _ _ => (udpClientRecv ri bufsize (some ev) t sock w).w.nrel = w.nrel + 1 ∧
                        (udpClientSend ri data (some ev) t sock w).w.nrel = w.nrel + 1 ∧
                        (udpClientRecv ri bufsize (some ev) t sock w).w.log.head? = some .lockRelease ∧
                        (udpClientSend ri data (some ev) t sock w).w.log.head? = some .lockRelease
     | .timeout _ => (udpClientRecv ri bufsize (some ev) t sock w).w.nrel = w.nrel ∧
                     (udpClientSend ri data (some ev) t sock w).w.nrel = w.nrel) := by
  have hl := lockWithTimeout_nrel ev t w
  cases hr : lockWithTimeout ev t w with
  | timeout w' => rw [hr] at hl; simp only [] at hl ⊢; simp [udpClientRecv, udpClientSend, hr, hl]
  | acquired t' w' =>
    rw [hr] at hl
    simp only [] at hl ⊢
    have h1 := retry_nrel (classifyRecv .plain) (.rcall bufsize) rfl ri sock t' w'
    have h2 := retry_nrel (classifySend .plain) (.call data.length 1) rfl ri sock t' w'
    refine ⟨?_, ?_, ?_, ?_⟩
    · simp only [udpClientRecv, hr, dgramRecv]; rw [World.nrel_lockRelease, h1, hl]
    · simp only [udpClientSend, hr, dgramSend]; rw [World.nrel_lockRelease, h2, hl]
    · simp [udpClientRecv, hr, World.lockRelease]
    · simp [udpClientSend, hr, World.lockRelease]

end EasyNet

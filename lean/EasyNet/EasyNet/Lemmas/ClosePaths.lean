/-
  C14 — a static analysis of close-path programs and its soundness w.r.t. `exec`, for every decision list.

    CN t p    "if p completes normally, flag t is set"
    CRc t p   "if p raises a cancellation (external or from a cancel scope), flag t is set"
    CRe t p   "if p raises an error (OSError / TimeoutError), flag t is set"
  (flags are never cleared, so a flag set before stays set).
-/
import EasyNet.Model.ClosePaths
namespace EasyNet.C14

mutual
  def CN (t : Tgt) : Prog → Bool
    | .skip => false
    | .mark t' => t == t'
    | .await => false
    | .park => false
    | .raiseErr => true
    | .seq a b => CN t a || CN t b
    | .many _ => false
    | .tryExcept b _ => CN t b
    | .tryExceptCancel b _ => CN t b
    | .tryFinally b f => CN t b || CN t f
    | .suppressErr b => CN t b && CRe t b
    | .moveOnAfter b c n => (CN t b || CN t n) && (CRc t b || CN t c)
    | .forcefully b => CN t b && CRc t b
    | .timeoutScope b => CN t b
    | .ifFlag t' a b => if t = t' then CN t b else CN t a && CN t b
  def CRc (t : Tgt) : Prog → Bool
    | .skip => true
    | .mark _ => true
    | .await => false
    | .park => false
    | .raiseErr => true
    | .seq a b => CRc t a && (CN t a || CRc t b)
    | .many a => CRc t a
    | .tryExcept b h => (CRc t b && CRe t b) || (CN t h && CRc t h && CRe t h)
    | .tryExceptCancel b h => CRc t b || (CN t h && CRc t h)
    | .tryFinally b f => ((CRc t b && CRe t b) || (CN t f && CRc t f && CRe t f)) && (CN t b || CRc t f)
    | .suppressErr b => CRc t b
    | .moveOnAfter b c n => CRc t b && (CN t b || CRc t n) && CRc t c
    | .forcefully b => CRc t b
    | .timeoutScope b => CRc t b
    | .ifFlag t' a b => if t = t' then CRc t b else CRc t a && CRc t b
  def CRe (t : Tgt) : Prog → Bool
    | .skip => true
    | .mark _ => true
    | .await => false
    | .park => true
    | .raiseErr => false
    | .seq a b => CRe t a && (CN t a || CRe t b)
    | .many _ => false
    | .tryExcept b h => (CRc t b && CRe t b) || (CN t h && CRc t h && CRe t h)
    | .tryExceptCancel b h => CRe t b && (CRc t b || CRe t h)
    | .tryFinally b f => ((CRc t b && CRe t b) || (CN t f && CRc t f && CRe t f)) && (CN t b || CRe t f)
    | .suppressErr _ => true
    | .moveOnAfter b c n => CRe t b && (CN t b || CRe t n) && (CRc t b || CRe t c)
    | .forcefully b => CRe t b
    | .timeoutScope b => CRe t b && CRc t b
    | .ifFlag t' a b => if t = t' then CRe t b else CRe t a && CRe t b
end

/-- what the analysis promises about flag `t` for an outcome -/
def guar (t : Tgt) (p : Prog) : Out → Bool
  | .ok => CN t p
  | .raised e => if isCancel e then CRc t p else CRe t p

/-- all three: whatever happens, the flag is set -/
def CAll (t : Tgt) (p : Prog) : Bool := CN t p && CRc t p && CRe t p

theorem guar_raised (t : Tgt) (p : Prog) (e : Exc) :
    guar t p (.raised e) = (if isCancel e then CRc t p else CRe t p) := rfl

theorem guar_ok (t : Tgt) (p : Prog) : guar t p .ok = CN t p := rfl

variable {t t' : Tgt} {a b p q : Prog} {o : Out} {e : Exc}

theorem St.has_set {s : St} (h : s.has t ∨ (t == t')) : (s.set t').has t := by
  unfold St.set
  split
  · exact h.elim id fun ht => eq_of_beq ht ▸ ‹_›
  · simp only [St.has, List.contains_cons, Bool.or_eq_true] at h ⊢
    exact h.symm

theorem suspend_frame (c : Bool) (env : Env) (ds : List Dec) (st : St) :
    (suspend c env ds st).st = st ∧ (suspend c env ds st).ds = ds.tail := by
  unfold suspend
  repeat' split
  all_goals exact ⟨rfl, rfl⟩

theorem guar_await : ¬guar t .await o :=
  match o with
  | .ok => Bool.false_ne_true
  | .raised e => by simp only [guar_raised]; split <;> exact Bool.false_ne_true

/-- a lock or event wait does not fail: it completes or is cancelled, and `park` promises nothing for either -/
theorem guar_park (env : Env) (ds : List Dec) (st : St) : ¬guar t .park (suspend false env ds st).out := by
  simp only [suspend, Bool.false_eq_true, if_false]
  repeat' split
  all_goals exact Bool.false_ne_true

/-! The equations of `CN` / `CRc` / `CRe` on a compound program hold by `rfl`: a projection such as `andL` applies to
  `CRc t (.seq a b)` as it stands. -/

private theorem andL {u v : Bool} (hh : (u && v) = true) : u = true := (Bool.and_eq_true_iff.mp hh).1
private theorem andR {u v : Bool} (hh : (u && v) = true) : v = true := (Bool.and_eq_true_iff.mp hh).2
private theorem orE {u v : Bool} (hh : (u || v) = true) : u = true ∨ v = true := Bool.or_eq_true_iff.mp hh

private theorem iteR {P : Prop} [Decidable P] {u v : Bool} (hh : (if P then v else u && v) = true) :
    v = true := by
  split at hh
  · exact hh
  · exact andR hh

private theorem iteL {P : Prop} [Decidable P] {u v : Bool} (hn : ¬P) (hh : (if P then v else u && v) = true) :
    u = true :=
  andL (if_neg hn ▸ hh)

theorem guar_raised_elim {Y : Prop} (hc : CRc t p → Y) (he : CRe t p → Y) :
    guar t p (.raised e) → Y := by
  simp only [guar_raised]; split <;> assumption

theorem guar_imp {X : Prop} (hn : o = .ok → CN t p → X ∨ CN t q) (hc : CRc t p → X ∨ CRc t q)
    (he : CRe t p → X ∨ CRe t q) : guar t p o → X ∨ guar t q o := by
  cases o with
  | ok => exact hn rfl
  | raised e => simp only [guar_raised]; split <;> assumption

theorem guar_mono (hn : o = .ok → CN t p → CN t q) (hc : CRc t p → CRc t q) (he : CRe t p → CRe t q) :
    guar t p o → guar t q o := by
  cases o with
  | ok => exact hn rfl
  | raised e => simp only [guar_raised]; split <;> assumption

theorem guar_of_raises (hh : (CRc t p && CRe t p)) : guar t p (.raised e) := by
  simp only [guar_raised]; split
  · exact andL hh
  · exact andR hh

theorem guar_of_CAll (hh : CAll t p) : guar t p o :=
  match o with
  | .ok => andL (andL hh)
  | .raised _ => guar_of_raises (Bool.and_eq_true_iff.mpr ⟨andR (andL hh), andR hh⟩)

theorem CAll_ifFlag_mark : CAll t (.ifFlag t a (.seq (.mark t) b)) = true := by
  have h {x y : Bool} : (if t = t then (t == t) || x else y) = true :=
    (if_pos rfl).trans (Bool.or_eq_true_iff.mpr (.inl (beq_self_eq_true t)))
  exact Bool.and_eq_true_iff.mpr ⟨Bool.and_eq_true_iff.mpr ⟨h, h⟩, h⟩

theorem guar_raises_or_all {h : Prog} {x : Exc} {o : Out} (hc : CRc t p → ((CRc t b && CRe t b) || CAll t h))
    (he : CRe t p → ((CRc t b && CRe t b) || CAll t h)) : guar t p (.raised x) → guar t b (.raised e) ∨ guar t h o :=
  fun g => (orE (guar_raised_elim hc he g)).imp guar_of_raises guar_of_CAll

theorem exec_ifFlag {env : Env} {ds : List Dec} {st : St} :
    exec (.ifFlag t a b) env ds st = if st.has t then exec a env ds st else exec b env ds st := rfl

def Sound (t : Tgt) (p : Prog) : Prop :=
  ∀ {env : Env} {ds ds' : List Dec} {st st' : St} {o : Out}, exec p env ds st = ⟨o, st', ds'⟩ →
    st.has t ∨ guar t p o → st'.has t

theorem Sound.chain {P Q R G G₁ G₂ : Prop} (h₁ : P ∨ G₁ → Q) (h₂ : Q ∨ G₂ → R) (hg : G → G₁ ∨ G₂) : P ∨ G → R
  | .inl hp => h₂ (.inl (h₁ (.inl hp)))
  | .inr g => (hg g).elim (fun g₁ => h₂ (.inl (h₁ (.inr g₁)))) (fun g₂ => h₂ (.inr g₂))

theorem iterate_sound (ha : Sound t a) (env : Env) (fuel : Nat) {ds ds' : List Dec} {st st' : St} {o : Out}
    (hr : iterate (exec a env) fuel ds st = ⟨o, st', ds'⟩) : st.has t ∨ guar t (.many a) o → st'.has t := by
  induction fuel generalizing ds st with
  | zero => cases hr; exact (·.resolve_right Bool.false_ne_true)
  | succ fuel ih =>
    cases ds with
    | nil => cases hr; exact (·.resolve_right Bool.false_ne_true)
    | cons d rest =>
      change (if _ then _ else _) = _ at hr
      split at hr
      · cases hr; exact (·.resolve_right Bool.false_ne_true)
      · split at hr
        · cases hr; exact (·.resolve_right Bool.false_ne_true)
        · generalize hra : exec a env (d :: rest) st = ra at hr
          obtain ⟨_ | e, st₁, ds₁⟩ := ra
          · exact ih hr ∘ Or.imp_left fun hs => ha hra (.inl hs)
          · cases hr
            exact ha hra ∘ Or.imp_right (guar_mono nofun id fun hh => absurd hh Bool.false_ne_true)

/-- `whnf` computes `exec` on the constructor.  The first part is run; then, by how it ended, either its own promise is
    what the whole promises, or the second part is run and `Sound.chain` takes the implication "the whole promises the
    flag → one of the two parts does", read off the equations of `CN` / `CRc` / `CRe`. -/
theorem sound (t : Tgt) (p : Prog) : Sound t p := by
  intro env ds ds' st st' o hr
  induction p generalizing env ds ds' st st' o with
  | skip | raiseErr => cases hr; exact (·.resolve_right Bool.false_ne_true)
  | mark t' => cases hr; exact St.has_set
  | await =>
    obtain rfl : st = st' := (suspend_frame ..).1.symm.trans (congrArg Res.st hr)
    exact (·.resolve_right guar_await)
  | park =>
    obtain rfl : st = st' := (suspend_frame ..).1.symm.trans (congrArg Res.st hr)
    obtain rfl : _ = o := congrArg Res.out hr
    exact (·.resolve_right (guar_park env ds st))
  | seq a b iha ihb =>
    conv at hr => lhs; whnf
    generalize hra : exec a env ds st = ra at hr
    obtain ⟨_ | e, st₁, ds₁⟩ := ra
    · exact Sound.chain (iha hra) (ihb hr) (guar_imp (fun _ => orE) (orE ∘ andR) (orE ∘ andR))
    · cases hr; exact iha hra ∘ Or.imp_right (guar_mono nofun andL andL)
  | many a iha => exact iterate_sound @iha env _ hr
  | tryExcept b h ihb ihh =>
    conv at hr => lhs; whnf
    generalize hrb : exec b env ds st = rb at hr
    obtain ⟨_ | e, st₁, ds₁⟩ := rb
    · cases hr; exact ihb hrb
    · conv at hr => lhs; whnf
      generalize hrh : exec h env ds₁ st₁ = rh at hr
      obtain ⟨_ | e₂, st₂, ds₂⟩ := rh <;> cases hr <;>
        exact Sound.chain (ihb hrb) (ihh hrh) (guar_raises_or_all id id)
  | tryExceptCancel b h ihb ihh =>
    conv at hr => lhs; whnf
    generalize hrb : exec b env ds st = rb at hr
    obtain ⟨_ | e, st₁, ds₁⟩ := rb
    · cases hr; exact ihb hrb
    · cases e with
      | err | timeoutErr => cases hr; exact ihb hrb ∘ Or.imp_right andL
      | cancel | scope =>
        conv at hr => lhs; whnf
        generalize hrh : exec h env ds₁ st₁ = rh at hr
        obtain ⟨_ | e₂, st₂, ds₂⟩ := rh <;> cases hr
        · exact Sound.chain (ihb hrb) (ihh hrh) fun hh => (orE hh).imp_right andL
        · exact Sound.chain (ihb hrb) (ihh hrh) (guar_imp nofun (fun hh => (orE hh).imp_right andR) (orE ∘ andR))
  | tryFinally b f ihb ihf =>
    conv at hr => lhs; whnf
    generalize hrb : exec b env ds st = rb at hr
    obtain ⟨o₁, st₁, ds₁⟩ := rb
    generalize hrf : exec f env ds₁ st₁ = rf at hr
    obtain ⟨_ | e₂, st₂, ds₂⟩ := rf <;> cases hr <;> refine Sound.chain (ihb hrb) (ihf hrf) ?_
    · cases o₁ with
      | ok => exact orE
      | raised => exact guar_raises_or_all andL andL
    · cases o₁ with
      | ok => exact guar_imp nofun (orE ∘ andR) (orE ∘ andR)
      | raised => exact guar_raises_or_all andL andL
  | suppressErr b ihb =>
    conv at hr => lhs; whnf
    generalize hrb : exec b env ds st = rb at hr
    obtain ⟨_ | e, st₁, ds₁⟩ := rb
    · cases hr; exact ihb hrb ∘ Or.imp_right andL
    · cases e with
      | err | timeoutErr => cases hr; exact ihb hrb ∘ Or.imp_right andR
      | cancel | scope => cases hr; exact ihb hrb
  | moveOnAfter b c n ihb ihc ihn =>
    conv at hr => lhs; whnf
    generalize hrb : exec b _ ds st = rb at hr
    obtain ⟨_ | e, st₁, ds₁⟩ := rb
    · exact Sound.chain (ihb hrb) (ihn hr) (guar_imp (fun _ => orE ∘ andL) (orE ∘ andR ∘ andL) (orE ∘ andR ∘ andL))
    · simp only at hr
      split at hr
      · subst e; exact Sound.chain (ihb hrb) (ihc hr) (guar_imp (fun _ => orE ∘ andR) (.inr ∘ andR) (orE ∘ andR))
      · cases hr; exact ihb hrb ∘ Or.imp_right (guar_mono nofun (andL ∘ andL) (andL ∘ andL))
  | forcefully b ihb =>
    conv at hr => lhs; whnf
    generalize hrb : exec b _ ds st = rb at hr
    obtain ⟨_ | e, st₁, ds₁⟩ := rb
    · cases hr; exact ihb hrb ∘ Or.imp_right andL
    · simp only at hr
      split at hr <;> cases hr
      · subst e; exact ihb hrb ∘ Or.imp_right andR
      · exact ihb hrb
  | timeoutScope b ihb =>
    conv at hr => lhs; whnf
    generalize hrb : exec b _ ds st = rb at hr
    obtain ⟨_ | e, st₁, ds₁⟩ := rb
    · cases hr; exact ihb hrb
    · simp only at hr
      split at hr <;> cases hr
      · subst e; exact ihb hrb ∘ Or.imp_right andR
      · exact ihb hrb ∘ Or.imp_right (guar_mono nofun id andL)
  | ifFlag t' a b iha ihb =>
    rw [exec_ifFlag] at hr
    split at hr
    · by_cases heq : t = t'
      · exact fun _ => iha hr (.inl (heq ▸ ‹_›))
      · exact iha hr ∘ Or.imp_right (guar_mono (fun _ => iteL heq) (iteL heq) (iteL heq))
    · exact ihb hr ∘ Or.imp_right (guar_mono (fun _ => iteR) iteR iteR)

theorem closes_always (h : CAll t p = true) (env : Env) (ds : List Dec) (st : St) :
    (exec p env ds st).st.has t = true :=
  sound t p rfl (.inr (guar_of_CAll h))

theorem closes_unless_ok (h : (CRc t p && CRe t p) = true) (env : Env) (ds : List Dec) (st : St)
    (hfail : (exec p env ds st).out ≠ .ok) : (exec p env ds st).st.has t = true :=
  sound t p rfl <| .inr <| match ho : (exec p env ds st).out with
    | .ok => absurd ho hfail
    | .raised _ => guar_of_raises h

end EasyNet.C14

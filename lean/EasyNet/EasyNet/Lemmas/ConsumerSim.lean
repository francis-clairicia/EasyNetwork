/-
  The copying consumer (StreamDataConsumer) over any framer that refines a byte-level spec behaves
  exactly like the reference `refRun spec`: same delivered items, same retained bytes, for every chunk list.
-/
import EasyNet.Lemmas.ChunkIndep
namespace EasyNet

/-- "framer `(init, feed)` refines `spec`": `Inv s b` = "`s` is the suspended state after being fed `b` in total" -/
structure Refines {σ : Type} (init : σ) (feed : σ → Bytes → Res σ) (spec : Bytes → SRes)
    (Inv : σ → Bytes → Prop) : Prop where
  init : Inv init []
  step : ∀ s b c, Inv s b → (feed s c).erase = spec (b ++ c) ∧ ∀ s', feed s c = .need s' → Inv s' (b ++ c)

/-- consumer state `c` retains exactly the bytes `h` -/
def Consumer.Rel {σ} (spec : Bytes → SRes) (Inv : σ → Bytes → Prop) (c : Consumer σ) (h : Bytes) : Prop :=
  (c.fr = none ∧ c.buffer = h) ∨ (∃ s, c.fr = some s ∧ c.buffer = [] ∧ Inv s h ∧ spec h = .need)

variable {σ : Type} {init : σ} {feed : σ → Bytes → Res σ} {spec : Bytes → SRes} {Inv : σ → Bytes → Prop}

theorem Consumer.Rel.new : Consumer.Rel spec Inv (Consumer.new : Consumer σ) [] := Or.inl ⟨rfl, rfl⟩

/-- `None` and `b""` are one case: what is fed is always `buffer ++ chunk`, unless that is empty -/
theorem Consumer.next_eq (c : Consumer σ) (chunk : Bytes) :
    Consumer.next init feed c chunk =
      if (c.buffer ++ chunk).isEmpty then (c, none)
      else match feed (c.fr.getD init) (c.buffer ++ chunk) with
        | .done data rest => (⟨rest, none⟩, some (.frame data))
        | .fail rest => (⟨rest, none⟩, some .limit)
        | .need s => (⟨[], some s⟩, none) := by
  unfold Consumer.next
  cases chunk <;> cases c.fr <;> simp <;> rfl

theorem Consumer.next_ref (R : Refines init feed spec Inv) {c : Consumer σ} {h : Bytes}
    (hrel : Consumer.Rel spec Inv c h) (chunk : Bytes) :
    Follows spec (Consumer.Rel spec Inv) (fun c' r => c'.buffer.length = r.length) (h ++ chunk)
      (Consumer.next init feed c chunk) := by
  unfold Follows
  rw [Consumer.next_eq]
  by_cases hfed : (c.buffer ++ chunk).isEmpty
  · -- nothing to feed: `chunk` is empty, and nothing is retained or a framer is suspended on `h`
    obtain ⟨hbuf0, rfl⟩ := List.append_eq_nil_iff.mp (List.isEmpty_iff.mp hfed)
    rw [if_pos hfed, List.append_nil]
    refine ⟨fun _ => ⟨c, rfl, hrel⟩, fun hne it r ho => ?_⟩
    rcases hrel with ⟨hfr, hbuf⟩ | ⟨s, hfr, hbuf, hinv, hneed⟩
    · exact absurd (hbuf ▸ hbuf0) hne
    · rw [hneed] at ho; cases ho
  · rw [if_neg hfed]
    -- what the framer is fed completes what it has seen to `h ++ chunk`
    obtain ⟨pre, hpre, hcat⟩ : ∃ pre, Inv (c.fr.getD init) pre ∧ pre ++ (c.buffer ++ chunk) = h ++ chunk := by
      rcases hrel with ⟨hfr, hbuf⟩ | ⟨s, hfr, hbuf, hinv, _⟩
      · exact ⟨[], by rw [hfr]; exact R.init, by rw [hbuf]; rfl⟩
      · exact ⟨h, by rw [hfr]; exact hinv, by rw [hbuf]; rfl⟩
    have hne : h ++ chunk ≠ [] := fun e =>
      hfed (List.isEmpty_iff.mpr (List.append_eq_nil_iff.mp (hcat.trans e)).2)
    have hstep := R.step _ pre (c.buffer ++ chunk) hpre
    rw [hcat] at hstep
    rw [← hstep.1]
    cases hf : feed (c.fr.getD init) (c.buffer ++ chunk) with
    | need s' =>
      exact ⟨fun _ => ⟨_, rfl, Or.inr ⟨s', rfl, rfl, hstep.2 s' hf, by rw [← hstep.1, hf]; rfl⟩⟩,
        fun _ it r ho => by cases ho⟩
    | done d r =>
      refine ⟨fun hn => ?_, fun _ it r' ho => ?_⟩
      · cases hn.resolve_left hne
      · cases ho; exact ⟨_, rfl, Or.inl ⟨rfl, rfl⟩, rfl⟩
    | fail r =>
      refine ⟨fun hn => ?_, fun _ it r' ho => ?_⟩
      · cases hn.resolve_left hne
      · cases ho; exact ⟨_, rfl, Or.inl ⟨rfl, rfl⟩, rfl⟩

theorem Consumer.drain_ref (R : Refines init feed spec Inv) (fuel : Nat) (c : Consumer σ) (h : Bytes)
    (hrel : Consumer.Rel spec Inv c h) :
    (Consumer.drain init feed fuel c).2 = (refDrain spec fuel h).2 ∧
    Consumer.Rel spec Inv (Consumer.drain init feed fuel c).1 (refDrain spec fuel h).1 := by
  induction fuel generalizing c h with
  | zero => exact ⟨rfl, hrel⟩
  | succ fuel ih =>
    have hnext := Consumer.next_ref R hrel []
    rw [List.append_nil] at hnext
    rw [refDrain_succ, Consumer.drain]
    cases hb : h.isEmpty with
    | true =>
      obtain rfl := List.isEmpty_iff.mp hb
      obtain ⟨c', hc', hrel'⟩ := hnext.1 (Or.inl rfl)
      rw [hc']; exact ⟨rfl, hrel'⟩
    | false =>
      cases hs : (spec h).out with
      | none =>
        obtain ⟨c', hc', hrel'⟩ := hnext.1 (Or.inr (SRes.out_eq_none.mp hs))
        rw [hc']; exact ⟨rfl, hrel'⟩
      | some x =>
        obtain ⟨c', hc', hrel', _⟩ := hnext.2 (List.isEmpty_eq_false_iff.mp hb) x.1 x.2 hs
        rw [hc']
        exact ⟨congrArg (x.1 :: ·) (ih c' x.2 hrel').1, (ih c' x.2 hrel').2⟩

theorem Consumer.recvChunk_ref (R : Refines init feed spec Inv) (c : Consumer σ) (h chunk : Bytes)
    (hrel : Consumer.Rel spec Inv c h) :
    (Consumer.recvChunk init feed c chunk).2 = (refRecv spec h chunk).2 ∧
    Consumer.Rel spec Inv (Consumer.recvChunk init feed c chunk).1 (refRecv spec h chunk).1 := by
  have hnext := Consumer.next_ref R hrel chunk
  rw [refRecv_eq, Consumer.recvChunk]
  cases hb : (h ++ chunk).isEmpty with
  | true =>
    obtain ⟨c', hc', hrel'⟩ := hnext.1 (Or.inl (List.isEmpty_iff.mp hb))
    rw [hc', ← List.isEmpty_iff.mp hb]; exact ⟨rfl, hrel'⟩
  | false =>
    cases hs : (spec (h ++ chunk)).out with
    | none =>
      obtain ⟨c', hc', hrel'⟩ := hnext.1 (Or.inr (SRes.out_eq_none.mp hs))
      rw [hc']; exact ⟨rfl, hrel'⟩
    | some x =>
      obtain ⟨c', hc', hrel', hlen⟩ := hnext.2 (List.isEmpty_eq_false_iff.mp hb) x.1 x.2 hs
      rw [hc']
      simp only [hlen]
      have hd := Consumer.drain_ref R (x.2.length + 1) c' x.2 hrel'
      exact ⟨congrArg (x.1 :: ·) hd.1, hd.2⟩

theorem Consumer.run_ref (R : Refines init feed spec Inv) (chunks : List Bytes) (c : Consumer σ) (h : Bytes)
    (hrel : Consumer.Rel spec Inv c h) :
    (Consumer.run init feed c chunks).2 = (refRun spec h chunks).2 ∧
    Consumer.Rel spec Inv (Consumer.run init feed c chunks).1 (refRun spec h chunks).1 := by
  induction chunks generalizing c h with
  | nil => exact ⟨rfl, hrel⟩
  | cons ch chs ih =>
    have h1 := Consumer.recvChunk_ref R c h ch hrel
    have h2 := ih _ _ h1.2
    simp only [Consumer.run, refRun]
    exact ⟨by rw [h1.1, h2.1], h2.2⟩

/-- between reads the consumer's own buffer is empty: whatever it retains sits in the suspended framer -/
theorem Consumer.drain_buffer_nil (R : Refines init feed spec Inv) (P : ProgLaws spec) (fuel : Nat) (b : Bytes)
    (h : b.length < fuel) : (Consumer.drain init feed fuel ⟨b, none⟩).1.buffer = [] := by
  induction fuel generalizing b with
  | zero => exact absurd h (Nat.not_lt_zero _)
  | succ fuel ih =>
    rw [Consumer.drain, Consumer.next_eq, List.append_nil]
    cases hb : b.isEmpty with
    | true => exact List.isEmpty_iff.mp hb
    | false =>
      rw [if_neg Bool.false_ne_true]
      have hspec : spec b = (feed init b).erase := ((R.step init [] b R.init).1).symm
      cases hfe : feed ((none : Option σ).getD init) b with
      | need s => rfl
      | done d r =>
        have hlt := P.progress_done b d r (hspec.trans (congrArg Res.erase hfe))
        exact ih r (Nat.lt_of_lt_of_le hlt (Nat.le_of_lt_succ h))
      | fail r =>
        have hlt := P.progress_fail b r (hspec.trans (congrArg Res.erase hfe))
        exact ih r (Nat.lt_of_lt_of_le hlt (Nat.le_of_lt_succ h))

theorem Consumer.recvChunk_buffer_nil (R : Refines init feed spec Inv) (P : ProgLaws spec) (c : Consumer σ)
    (chunk : Bytes) : (Consumer.recvChunk init feed c chunk).1.buffer = [] := by
  rw [Consumer.recvChunk, Consumer.next_eq]
  cases hb : (c.buffer ++ chunk).isEmpty with
  | true => exact (List.append_eq_nil_iff.mp (List.isEmpty_iff.mp hb)).1
  | false =>
    rw [if_neg Bool.false_ne_true]
    cases feed (c.fr.getD init) (c.buffer ++ chunk) with
    | need s => rfl
    | done d r => exact Consumer.drain_buffer_nil R P _ r (Nat.lt_succ_self _)
    | fail r => exact Consumer.drain_buffer_nil R P _ r (Nat.lt_succ_self _)

theorem Consumer.run_buffer_nil (R : Refines init feed spec Inv) (P : ProgLaws spec) (chunks : List Bytes)
    (c : Consumer σ) (hc : c.buffer = []) : (Consumer.run init feed c chunks).1.buffer = [] := by
  induction chunks generalizing c with
  | nil => exact hc
  | cons ch chs ih => exact ih _ (Consumer.recvChunk_buffer_nil R P c ch)

theorem Consumer.Rel.held_eq {acc : σ → Bytes} (hacc : ∀ s b, Inv s b → acc s = b) {c : Consumer σ} {h : Bytes}
    (hrel : Consumer.Rel spec Inv c h) : Consumer.held acc c = h := by
  rcases hrel with ⟨hfr, hbuf⟩ | ⟨s, hfr, _, hinv, _⟩
  · rw [Consumer.held, hfr]; exact hbuf
  · rw [Consumer.held, hfr]; exact hacc s h hinv

theorem Consumer.run_held {acc : σ → Bytes} (R : Refines init feed spec Inv) (P : ProgLaws spec)
    (hacc : ∀ s b, Inv s b → acc s = b) (chunks : List Bytes) :
    Consumer.held acc (Consumer.run init feed Consumer.new chunks).1 = [] ∨
    spec (Consumer.held acc (Consumer.run init feed Consumer.new chunks).1) = .need := by
  rw [(Consumer.run_ref R chunks _ [] .new).2.held_eq hacc]
  exact P.refRun_held chunks [] (Or.inl rfl)

theorem Consumer.run_length_le (R : Refines init feed spec Inv) (P : ProgLaws spec) (chunks : List Bytes) :
    (Consumer.run init feed Consumer.new chunks).2.length ≤ chunks.flatten.length := by
  rw [(Consumer.run_ref R chunks _ [] .new).1]
  have := P.refRun_length_le chunks []
  rw [List.length_nil, Nat.zero_add] at this
  exact Nat.le_trans (Nat.le_add_right ..) this

theorem Consumer.run_eq_decodeW {ok : Bytes → Prop} (R : Refines init feed spec Inv) (L : SpecLaws spec ok)
    (chunks : List Bytes) (hno : AllOk ok (decodeW spec chunks.flatten).2) :
    (Consumer.run init feed Consumer.new chunks).2 = (decodeW spec chunks.flatten).2 ∧
    Consumer.Rel spec Inv (Consumer.run init feed Consumer.new chunks).1 (decodeW spec chunks.flatten).1 := by
  have hsim := Consumer.run_ref R chunks Consumer.new [] Consumer.Rel.new
  rw [refRun_chunk_independent L chunks [] (Or.inl rfl) hno] at hsim
  exact hsim

end EasyNet

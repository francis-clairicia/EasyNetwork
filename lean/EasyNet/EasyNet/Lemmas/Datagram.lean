import EasyNet.Model.Datagram
import EasyNet.Lemmas.ConsumerSim
namespace EasyNet.C05
open EasyNet

theorem oneShot_eq {σ} {init : σ} {feed : σ → Bytes → Res σ} {spec : Bytes → SRes} {Inv : σ → Bytes → Prop}
    (R : Refines init feed spec Inv) (data : Bytes) :
    oneShot init feed data =
      match spec data with
      | .need => .missing
      | .done d r => if r.isEmpty then .ok d else .extra
      | .fail _ => .limit := by
  have h : (feed init data).erase = spec data := (R.step init [] data R.init).1
  rw [← h, oneShot]
  cases feed init data <;> rfl

theorem gots_cons (o : DOut) (os : List DOut) : gots (o :: os) = gotList o ++ gots os := by
  cases o <;> rfl

theorem wake_conserve (q : DQ) : gotList (DQ.wake q).2 ++ queued (DQ.wake q).1 = queued q := by
  unfold DQ.wake
  cases q.excq <;> rfl

theorem step_conserve (q : DQ) (e : DEv) :
    gotList (q.step e).2 ++ queued (q.step e).1 = queued q ++ accepts q e := by
  cases e with
  | dgram d => cases ha : q.attached <;> simp [DQ.step, ha, queued, gotList, accepts]
  | error x => cases ha : q.attached <;> simp [DQ.step, ha, queued, gotList, accepts]
  | lost x => cases ha : q.attached <;> simp [DQ.step, ha, queued, gotList, accepts]
  | close => simp [DQ.step, queued, gotList, accepts]
  | recv =>
    have hacc : accepts q .recv = [] := rfl
    rw [hacc, List.append_nil]
    simp only [DQ.step]
    cases hq : q.recvq with
    | nil =>
      cases q.closing
      · simp [queued, hq, gotList]
      · exact wake_conserve q
    | cons o rest =>
      cases o with
      | some d => simp [queued, hq, gotList]
      | none => rw [wake_conserve]; simp [queued, hq]

theorem run_conserve (evs : List DEv) (q : DQ) :
    gots (DQ.run q evs).2 ++ queued (DQ.run q evs).1 = queued q ++ accepted q evs := by
  induction evs generalizing q with
  | nil => simp [DQ.run, gots, accepted]
  | cons e es ih =>
    have h1 := step_conserve q e
    have h2 := ih (q.step e).1
    simp only [DQ.run, accepted]
    rw [gots_cons, List.append_assoc, h2, ← List.append_assoc, h1, List.append_assoc]

end EasyNet.C05

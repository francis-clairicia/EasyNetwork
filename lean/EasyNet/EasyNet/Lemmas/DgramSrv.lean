/-
  The datagram-server client machine (Model/DgramSrv.lean): its inductive invariant, what each operation of the model
  does to it, the system of all addresses as a product of clients, and the canonical schedule that drains a client.
-/
import EasyNet.Model.DgramSrv
namespace EasyNet.DgramSrv

/-- how the `_ClientData` state and the client coroutine fit together -/
def Coherent {α} (c : Client α) : Prop :=
  match c.r with
  | .none => c.state = .idle ∧ c.active = 0 ∧ c.queue = []
  | .scheduled => c.state = .pending ∧ c.active = 0 ∧ c.queue ≠ []
  | .first _ => c.state = .running ∧ c.active = 1
  | .handling => c.state = .running ∧ c.active = 1
  | .waiting _ n => c.state = .running ∧ c.active = 1 ∧ (n = false → c.queue ≠ [] → 0 < c.pushing)

structure Inv {α} (c : Client α) : Prop where
  fifo : c.consumed ++ held c.r ++ c.queue ++ c.inflight = c.arrived
  good : c.bad = false
  coh : Coherent c

section
variable {α : Type} {c : Client α} {d : α} {q : List α}

theorem inv_init : Inv (Client.init : Client α) := ⟨rfl, rfl, show _ ∧ _ ∧ _ from ⟨rfl, rfl, rfl⟩⟩

theorem Inv.of_idle (I : Inv c) (hs : c.state = .idle) : c.r = .none ∧ c.active = 0 ∧ c.queue = [] := by
  have coh := I.coh
  unfold Coherent at coh
  cases hr : c.r <;> rw [hr] at coh
  · exact ⟨rfl, coh.2⟩
  all_goals exact nomatch hs.symm.trans coh.1

theorem coroutineStart_cons (hq : c.queue = d :: q) (hs : c.state = .pending) :
    coroutineStart c = { c with state := .running, queue := q, r := .first d, active := c.active + 1 } := by
  simp [coroutineStart, markRunning, hq, hs]

theorem inv_coroutineStart (hs : c.state = .pending) (ha : c.active = 0) (hb : c.bad = false) (hq : c.queue ≠ [])
    (hf : c.consumed ++ c.queue ++ c.inflight = c.arrived) : Inv (coroutineStart c) := by
  cases hqq : c.queue with
  | nil => exact absurd hqq hq
  | cons d q =>
    rw [coroutineStart_cons hqq hs]
    exact ⟨by simpa [held, hqq] using hf, hb, show _ ∧ _ from ⟨rfl, by simp [ha]⟩⟩

theorem inv_startInline (hs : c.state = .idle) (ha : c.active = 0) (hb : c.bad = false) (hq : c.queue ≠ [])
    (hf : c.consumed ++ c.queue ++ c.inflight = c.arrived) : Inv (startInline c) :=
  inv_coroutineStart rfl ha (by simp [markPending, hb, hs]) hq hf

theorem inv_taskDone (hs : c.state = .running) (ha : c.active = 1) (hb : c.bad = false)
    (hf : c.consumed ++ c.queue ++ c.inflight = c.arrived) : Inv (taskDone c) := by
  cases hq : c.queue <;>
    simp only [taskDone, markDone, markPending, hq, List.isEmpty_nil, List.isEmpty_cons, if_true] <;>
    exact ⟨by simpa [hq, held] using hf, by simp [hb, hs], by simp [Coherent, ha]⟩

theorem inv_deliver (I : Inv c) (hq : c.queue = d :: q) (hh : held c.r = []) (hs : c.state = .running)
    (ha : c.active = 1) : Inv (deliver c d q) := by
  have hf := I.fifo
  rw [hh, hq] at hf
  exact ⟨by simpa [deliver, held] using hf, I.good, show _ ∧ _ from ⟨hs, ha⟩⟩

theorem held_notify (r : RPc α) : held (notify r) = held r := by cases r <;> rfl

end

theorem inv_step {α} {c c' : Client α} (l : Label α) (I : Inv c) (h : step c l = some c') : Inv c' := by
  have ⟨fifo, good, coh⟩ := I
  unfold Coherent at coh
  cases l <;> simp only [step] at h
  case arrive d =>
    cases h
    exact ⟨by simp only [← fifo, List.append_assoc], good, coh⟩
  case h =>
    split at h
    · cases h
    next d rest hin =>
      have hf : c.consumed ++ held c.r ++ (c.queue ++ [d]) ++ rest = c.arrived := by
        simp only [← fifo, hin, List.append_assoc, List.singleton_append]
      split at h <;> cases h
      next hidle =>
        obtain ⟨hr, ha, -⟩ := I.of_idle hidle
        rw [hr] at hf
        exact inv_startInline hidle ha good (by simp) (by simpa [held] using hf)
      next hidle =>
        refine ⟨hf, good, ?_⟩
        unfold Coherent
        cases hr : c.r <;> rw [hr] at coh
        case none => exact absurd coh.1 hidle
        case scheduled => exact ⟨coh.1, coh.2.1, by simp⟩
        case waiting => exact ⟨coh.1, coh.2.1, fun _ _ => Nat.succ_pos _⟩
        all_goals exact coh
  case hl =>
    split at h
    · cases h
    next hp =>
      split at h <;> cases h
      next hc => exact absurd (I.of_idle hc.1).2.2 (by simpa using hc.2)
      next =>
        refine ⟨by simpa only [held_notify] using fifo, good, ?_⟩
        unfold Coherent
        cases hr : c.r <;> rw [hr] at coh
        case waiting => exact ⟨coh.1, coh.2.1, nofun⟩
        all_goals exact coh
  -- the other labels are moves of the client coroutine: case on where it is
  all_goals cases hr : c.r <;> simp only [hr, reduceCtorEq] at h <;> rw [hr] at coh fifo
  case gy.first t d =>
    cases h
    exact ⟨by simpa [held] using fifo, good, coh⟩
  case gy.handling t =>
    split at h <;> cases h
    next d q hq => exact inv_deliver I hq (by rw [hr]; rfl) coh.1 coh.2
    next hq => exact ⟨fifo, good, coh.1, coh.2, fun _ hne => absurd hq hne⟩
  case ge.first | ge.handling =>
    cases h
    exact inv_taskDone coh.1 coh.2 good (by simpa [held] using fifo)
  case rs.scheduled =>
    cases h
    exact inv_coroutineStart coh.1 coh.2.1 good coh.2.2 (by simpa [held] using fifo)
  case wk.waiting t n =>
    cases n <;> simp only [reduceCtorEq] at h
    split at h <;> cases h
    next d q hq => exact inv_deliver I hq (by rw [hr]; rfl) coh.1 coh.2.1
    next hq => exact ⟨fifo, good, coh.1, coh.2.1, fun _ hne => absurd hq hne⟩
  case to.waiting t n =>
    cases t <;> simp only [reduceCtorEq] at h
    cases h
    exact ⟨fifo, good, coh.1, coh.2.1⟩

theorem inv_run {α} : ∀ (ls : List (Label α)) {c c' : Client α}, Inv c → run c ls = some c' → Inv c' := by
  intro ls
  induction ls with
  | nil => intro c c' I h; cases h; exact I
  | cons l ls ih =>
    intro c c' I h
    simp only [run] at h
    split at h
    · rename_i c1 h1
      exact ih (inv_step l I h1) h
    · cases h

section
variable {α : Type} {s : Sys α}

def Sys.set (s : Sys α) (a : Nat) (c : Client α) : Sys α := fun b => if b = a then c else s b

@[simp] theorem Sys.set_self (s : Sys α) (a : Nat) (c : Client α) : s.set a c a = c := if_pos rfl

theorem Sys.set_ne (s : Sys α) (a : Nat) (c : Client α) (b : Nat) (h : b ≠ a) : s.set a c b = s b := if_neg h

@[simp] theorem Sys.set_set (s : Sys α) (a : Nat) (c c' : Client α) : (s.set a c).set a c' = s.set a c' := by
  funext b
  by_cases h : b = a <;> simp [Sys.set, h]

theorem sstep_eq (s : Sys α) (a : Nat) (l : Label α) : sstep s a l = (step (s a) l).map (s.set a) := rfl

theorem srun_iff (ls : List (Nat × Label α)) {s s' : Sys α} :
    srun s ls = some s' ↔ ∀ b, run (s b) ((ls.filter (fun p => p.1 = b)).map (·.2)) = some (s' b) := by
  induction ls generalizing s with
  | nil => simp [srun, run, funext_iff]
  | cons p ls ih =>
    obtain ⟨a, l⟩ := p
    rw [srun, sstep_eq]
    cases hst : step (s a) l with
    | none => exact ⟨nofun, fun h => by simpa [run, hst] using h a⟩
    | some c =>
      refine ih.trans (forall_congr' fun b => ?_)
      by_cases hb : a = b
      · subst hb
        simp [run, hst]
      · simp [hb, Sys.set_ne _ _ _ _ (Ne.symm hb)]

theorem srun_at (a : Nat) (s : Sys α) {c c' : Client α} {ls : List (Label α)} (h : run c ls = some c') :
    srun (s.set a c) (ls.map (Prod.mk a)) = some (s.set a c') := by
  refine (srun_iff _).2 fun b => ?_
  -- the labels of `b` among labels of `a` only: all of them, or none
  by_cases hb : a = b
  · subst hb
    simpa [List.filter_map, Function.comp_def, List.filter_eq_self.2] using h
  · simp [hb, List.filter_eq_nil_iff.2, Sys.set_ne _ _ _ _ (Ne.symm hb), run]

theorem Inv.reachable {ls : List (Nat × Label α)} (h : srun Sys.init ls = some s) (a : Nat) : Inv (s a) :=
  inv_run _ inv_init ((srun_iff ls).1 h a)

end

section
variable {α : Type} {c : Client α} {d : α} {q rest : List α}

/-- a handler task that finds the state `None` runs the client coroutine inline, which pops the datagram at once -/
theorem Inv.step_h_idle (I : Inv c) (hin : c.inflight = d :: rest) (hs : c.state = .idle) :
    step c .h =
      some { c with inflight := rest, queue := [], state := .running, r := .first d, active := c.active + 1 } := by
  simp [step, hin, hs, startInline, coroutineStart, markPending, markRunning, (I.of_idle hs).2.2]

theorem step_h_busy (hin : c.inflight = d :: rest) (hs : c.state ≠ .idle) :
    step c .h = some { c with inflight := rest, queue := c.queue ++ [d], pushing := c.pushing + 1 } := by
  simp only [step, hin, hs, if_false]

theorem Inv.step_hl (I : Inv c) (hp : c.pushing ≠ 0) :
    step c .hl = some { c with pushing := c.pushing - 1, r := notify c.r } := by
  simp only [step, hp, if_false]
  exact if_neg fun hc => absurd (I.of_idle hc.1).2.2 (by simpa using hc.2)

theorem step_rs (hr : c.r = .scheduled) : step c .rs = some (coroutineStart c) := by
  simp only [step, hr]

theorem step_gy_first (t : Bool) (hr : c.r = .first d) :
    step c (.gy t) = some { c with consumed := c.consumed ++ [d], r := .handling } := by
  simp only [step, hr]

theorem step_gy_handling (t : Bool) (hr : c.r = .handling) (hq : c.queue = d :: q) :
    step c (.gy t) = some (deliver c d q) := by
  simp only [step, hr, hq]

theorem step_wk {t : Bool} (hr : c.r = .waiting t true) (hq : c.queue = d :: q) : step c .wk = some (deliver c d q) := by
  simp only [step, hr, hq]

/-- work left: used to show that everything that arrived can be handled -/
def work (c : Client α) : Nat :=
  4 * c.inflight.length + c.pushing + 2 * c.queue.length + (held c.r).length +
    (match c.r with | .scheduled => 1 | _ => 0)

/-- The canonical schedule.  While a datagram is in flight, queued or held, one of the server's own tasks or the
    generator can take a step that brings it nearer to being consumed: a handler inside `push_datagram` finishes, else
    the next handler task starts, else the client coroutine moves. -/
theorem progress (I : Inv c) (hne : ¬(c.inflight = [] ∧ c.queue = [] ∧ held c.r = [])) :
    ∃ l c₁, (∀ d, l ≠ .arrive d) ∧ step c l = some c₁ ∧ work c₁ < work c ∧ c₁.arrived = c.arrived := by
  have coh := I.coh
  unfold Coherent at coh
  by_cases hp : c.pushing = 0
  · cases hin : c.inflight with
    | cons d rest =>
      by_cases hs : c.state = .idle
      · obtain ⟨hr, -, hq⟩ := I.of_idle hs
        refine ⟨.h, _, nofun, I.step_h_idle hin hs, ?_, rfl⟩
        simp [work, hin, hr, hq, held]
        omega
      · refine ⟨.h, _, nofun, step_h_busy hin hs, ?_, rfl⟩
        simp [work, hin]
        omega
    | nil =>
      cases hr : c.r <;> rw [hr] at coh
      case none => exact absurd ⟨hin, coh.2.2, by rw [hr]; rfl⟩ hne
      case scheduled =>
        cases hq : c.queue with
        | nil => exact absurd hq coh.2.2
        | cons d q =>
          refine ⟨.rs, _, nofun, step_rs hr, ?_, ?_⟩ <;> rw [coroutineStart_cons hq coh.1]
          simp [work, hr, hq, held]
      case first d =>
        refine ⟨.gy false, _, nofun, step_gy_first false hr, ?_, rfl⟩
        simp [work, hr, held]
      case handling =>
        cases hq : c.queue with
        | nil => exact absurd ⟨hin, hq, by rw [hr]; rfl⟩ hne
        | cons d q =>
          refine ⟨.gy false, _, nofun, step_gy_handling false hr hq, ?_, rfl⟩
          simp [work, deliver, hr, hq, held]
      case waiting t n =>
        cases hq : c.queue with
        | nil => exact absurd ⟨hin, hq, by rw [hr]; rfl⟩ hne
        | cons d q =>
          cases n with
          | false => exact absurd (coh.2.2 rfl (by simp [hq])) (by omega)
          | true =>
            refine ⟨.wk, _, nofun, step_wk hr hq, ?_, rfl⟩
            simp [work, deliver, hr, hq, held]
  · refine ⟨.hl, _, nofun, I.step_hl hp, ?_, rfl⟩
    have h₁ : (held (notify c.r)).length = (held c.r).length := by rw [held_notify]
    have h₂ : (match notify c.r with | .scheduled => 1 | _ => 0) = (match c.r with | .scheduled => 1 | _ => 0) := by
      cases c.r <;> rfl
    simp only [work, h₁, h₂]
    omega

theorem can_drain (n : Nat) : ∀ c : Client α, Inv c → work c < n →
    ∃ ls c', (∀ l ∈ ls, ∀ d, l ≠ .arrive d) ∧ run c ls = some c' ∧ c'.consumed = c.arrived ∧ c'.queue = [] ∧
      c'.inflight = [] := by
  induction n with
  | zero => exact fun _ _ => nofun
  | succ n ih =>
    intro c I hw
    by_cases hd : c.inflight = [] ∧ c.queue = [] ∧ held c.r = []
    · exact ⟨[], c, nofun, rfl, by simpa [hd.1, hd.2.1, hd.2.2] using I.fifo, hd.2.1, hd.1⟩
    · obtain ⟨l, c₁, hl, hs, hlt, ha⟩ := progress I hd
      obtain ⟨ls, c', h₁, h₂, h₃, h₄⟩ := ih c₁ (inv_step l I hs) (by omega)
      exact ⟨l :: ls, c', List.forall_mem_cons.2 ⟨hl, h₁⟩, by simp only [run, hs, h₂],
        h₃.trans ha, h₄⟩

end

end EasyNet.DgramSrv

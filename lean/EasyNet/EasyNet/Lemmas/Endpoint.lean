/-
  Receive endpoints (C03): delivery invariant, "end-of-stream only after everything complete was delivered",
  sticky end-of-stream.  Generic in the consumer interface (`C15.IfaceSim`).
-/
import EasyNet.Model.Endpoint
import EasyNet.Lemmas.Iface
namespace EasyNet.C03
open EasyNet EasyNet.C15

variable {κ : Type} {I : Iface κ} {spec : Bytes → SRes} {Rel : κ → Bytes → Prop}

/-- `Tracks` at an endpoint state: the consumer holds `h`; decoding all reads made so far = what was delivered (`D`) +
    what is complete inside `h` -/
def EInv (spec : Bytes → SRes) (Rel : κ → Bytes → Prop) (s : EP κ) (D : List Item) : Prop :=
  ∃ h, Rel s.k h ∧ refRun spec [] s.reads = ((decodeW spec h).1, D ++ (decodeW spec h).2)

def outItems : ROut → List Item
  | .item it => [it]
  | _ => []

/-- all payload bytes still queued in the transport script -/
def pending : List TEv → Bytes
  | [] => []
  | .data b :: rest => b ++ pending rest
  | _ :: rest => pending rest


/-- the state after a read of at most `n` bytes of the queued data `b`, handed to the consumer, now `k2` -/
def EP.read (s : EP κ) (b : Bytes) (rest : List TEv) (n : Nat) (k2 : κ) : EP κ :=
  { s with k := k2, nreads := s.nreads + 1, reads := s.reads ++ [b.take n],
           script := if (b.drop n).isEmpty then rest else .data (b.drop n) :: rest }

theorem EP.read_pending {s : EP κ} {b : Bytes} {rest : List TEv} {n : Nat} {k2 : κ} (hs : s.script = .data b :: rest) :
    (s.read b rest n k2).reads.flatten ++ pending (s.read b rest n k2).script = s.reads.flatten ++ pending s.script := by
  have : pending (s.read b rest n k2).script = b.drop n ++ pending rest := by
    unfold EP.read
    dsimp only
    split
    · rename_i he; rw [List.isEmpty_iff.mp he]; rfl
    · rfl
  rw [this, ← List.append_assoc, hs]
  simp [EP.read, pending]

/-- One round of the read loop when the size asked for is positive: either nothing is handed to the consumer (script used
    up, would-block, error, end of stream) and no queued byte is dropped, or queued data is read and handed to it. -/
theorem EP.loop_round (I : Iface κ) (zero : Bool) (fuel : Nat) (s : EP κ) (hpos : 0 < (I.want s.k).2) :
    (∃ sc m e o, EP.loop I zero (fuel + 1) s =
        ({ s with k := (I.want s.k).1, script := sc, nreads := m, eofReached := e }, o) ∧
      outItems o = [] ∧ (o = .eos → e = true) ∧ pending sc = pending s.script) ∨
    ∃ b rest, s.script = .data b :: rest ∧
      EP.loop I zero (fuel + 1) s =
        match I.feed (I.want s.k).1 (b.take (I.want s.k).2) with
        | (k2, some it) => (s.read b rest (I.want s.k).2 k2, .item it)
        | (k2, none) =>
          if zero ∧ (b.take (I.want s.k).2).length < (I.want s.k).2 then (s.read b rest (I.want s.k).2 k2, .timeout)
          else EP.loop I zero fuel (s.read b rest (I.want s.k).2 k2) := by
  rw [EP.loop]
  cases hs : s.script with
  | nil => exact .inl ⟨[], s.nreads, s.eofReached, .stuck, rfl, rfl, nofun, rfl⟩
  | cons ev rest =>
    cases ev with
    | block => exact .inl ⟨rest, _, s.eofReached, .timeout, rfl, rfl, nofun, rfl⟩
    | reset => exact .inl ⟨rest, _, s.eofReached, .connErr, rfl, rfl, nofun, rfl⟩
    | oserr => exact .inl ⟨rest, _, s.eofReached, .osErr, rfl, rfl, nofun, rfl⟩
    | eof => exact .inl ⟨rest, _, true, .eos, rfl, rfl, fun _ => rfl, rfl⟩
    | data b =>
      cases he : (b.take (I.want s.k).2).isEmpty with
      | true =>
        -- an empty read ends the stream; the size asked for is positive, so nothing was queued
        have hb : b = [] := by
          cases b with
          | nil => rfl
          | cons x xs => rw [← Nat.succ_pred_eq_of_pos hpos] at he; cases he
        exact .inl ⟨rest, _, true, .eos, if_pos he, rfl, fun _ => rfl, by rw [hb]; rfl⟩
      | false => exact .inr ⟨b, rest, rfl, if_neg (by rw [he]; exact Bool.false_ne_true)⟩


/-- what the loop, or a whole `receive`, that started at `s` with deliveries `D` guarantees of its outcome `r`:
    the delivery invariant with the item handed out, a drained consumer when none is, the end-of-stream latch,
    and no byte lost between the reads made and the script -/
def Post (spec : Bytes → SRes) (Rel : κ → Bytes → Prop) (s : EP κ) (D : List Item) (r : EP κ × ROut) : Prop :=
  Tracks spec Rel r.1.k r.1.reads (D ++ outItems r.2) ∧
  (outItems r.2 = [] → Drained spec Rel r.1.k r.1.reads D) ∧
  (r.2 = .eos → r.1.eofReached = true) ∧
  r.1.reads.flatten ++ pending r.1.script = s.reads.flatten ++ pending s.script

theorem Post.of_drained {s s' : EP κ} {D : List Item} {o : ROut} (hD : Drained spec Rel s'.k s'.reads D)
    (ho : outItems o = []) (heos : o = .eos → s'.eofReached = true)
    (hp : s'.reads.flatten ++ pending s'.script = s.reads.flatten ++ pending s.script) :
    Post spec Rel s D (s', o) := by
  refine ⟨?_, fun _ => hD, heos, hp⟩
  rw [show outItems (s', o).2 = [] from ho, List.append_nil]
  exact hD.tracks

theorem outItems_items (outs : List ROut) (o : ROut) : items (o :: outs) = outItems o ++ items outs := by
  cases o <;> rfl

section
variable (Sim : IfaceSim I spec Rel) (P : ProgLaws spec)
  (hwant : ∀ k h, Rel k h → decodeW spec h = (h, []) → 0 < (I.want k).2)
include Sim P hwant

theorem loop_full (zero : Bool) :
    ∀ (fuel : Nat) (s : EP κ) (D : List Item), Drained spec Rel s.k s.reads D →
      Post spec Rel s D (EP.loop I zero fuel s) := by
  intro fuel
  induction fuel with
  | zero => intro s D hD; exact Post.of_drained hD rfl nofun rfl
  | succ fuel ih =>
    intro s D hD
    have hw := Drained.want Sim hD
    have hpos : 0 < (I.want s.k).2 := by
      obtain ⟨h, hr, hdec, _⟩ := hD
      exact hwant s.k h hr hdec
    rcases EP.loop_round I zero fuel s hpos with ⟨sc, m, e, o, heq, ho, heos, hp⟩ | ⟨b, rest, hsc, heq⟩ <;> rw [heq]
    · exact Post.of_drained hw ho heos (congrArg (s.reads.flatten ++ ·) hp)
    · have hf := Drained.feed Sim P hD (List.length_take_le (I.want s.k).2 b)
      cases hfeed : I.feed (I.want s.k).1 (b.take (I.want s.k).2) with
      | mk k2 r =>
        rw [hfeed] at hf
        have hpend := EP.read_pending (n := (I.want s.k).2) (k2 := k2) hsc
        cases r with
        | some it => exact ⟨hf.1, nofun, nofun, hpend⟩
        | none =>
          dsimp only
          split
          · exact Post.of_drained (hf.2 rfl) rfl nofun hpend
          · obtain ⟨h1, h2, h3, h4⟩ := ih (s.read b rest (I.want s.k).2 k2) D (hf.2 rfl)
            exact ⟨h1, h2, h3, h4.trans hpend⟩

theorem receive_full (s : EP κ) (zero : Bool) (D : List Item) (hinv : EInv spec Rel s D) :
    Post spec Rel s D (EP.receive I s zero) := by
  have hd := Tracks.drain Sim hinv
  unfold EP.receive
  cases hdr : I.drainNext s.k with
  | mk k' r =>
    rw [hdr] at hd
    cases r with
    | some it => exact ⟨hd.1, nofun, nofun, rfl⟩
    | none =>
      dsimp only
      split
      · rename_i he; exact Post.of_drained (hd.2 rfl) rfl (fun _ => he) rfl
      · exact loop_full Sim P hwant zero _ { s with k := k' } D (hd.2 rfl)

theorem calls_full :
    ∀ (zs : List Bool) (s : EP κ) (D : List Item), EInv spec Rel s D →
      EInv spec Rel (EP.calls I s zs).1 (D ++ items (EP.calls I s zs).2) ∧
      (EP.calls I s zs).1.reads.flatten ++ pending (EP.calls I s zs).1.script = s.reads.flatten ++ pending s.script := by
  intro zs
  induction zs with
  | nil => intro s D h; simp only [EP.calls, items, List.append_nil]; exact ⟨h, trivial⟩
  | cons z zs ih =>
    intro s D h
    obtain ⟨h1, _, _, h4⟩ := receive_full Sim P hwant s z D h
    have h2 := ih (EP.receive I s z).1 _ h1
    simp only [EP.calls]
    rw [outItems_items, ← List.append_assoc]
    exact ⟨h2.1, h2.2.trans h4⟩

theorem calls_prefix (k0 : κ) (hk0 : Rel k0 [])
    (script : List TEv) (calls : List Bool) :
    items (EP.calls I ⟨k0, false, script, [], 0⟩ calls).2
      <+: (refRun spec [] (EP.calls I ⟨k0, false, script, [], 0⟩ calls).1.reads).2 := by
  obtain ⟨⟨h, _, hrun⟩, _⟩ := calls_full Sim P hwant calls ⟨k0, false, script, [], 0⟩ [] (Tracks.init hk0)
  rw [hrun]
  exact ⟨_, rfl⟩

end

theorem calls_sticky (Sim : IfaceSim I spec Rel) :
    ∀ (zs : List Bool) (s : EP κ) (D : List Item), Drained spec Rel s.k s.reads D → s.eofReached = true →
      (EP.calls I s zs).2 = zs.map (fun _ => ROut.eos) ∧ (EP.calls I s zs).1.nreads = s.nreads := by
  intro zs
  induction zs with
  | nil => intro s D _ _; exact ⟨rfl, rfl⟩
  | cons z zs ih =>
    intro s D hD he
    obtain ⟨hn, hD'⟩ := Drained.drain Sim hD
    have hr : EP.receive I s z = ({ s with k := (I.drainNext s.k).1 }, .eos) := by
      unfold EP.receive
      cases hdr : I.drainNext s.k with
      | mk k' r => rw [hdr] at hn; cases hn; simp only [he, if_true]
    have := ih { s with k := (I.drainNext s.k).1 } D hD' he
    simp only [EP.calls, hr, List.map_cons]
    exact ⟨by rw [this.1], this.2⟩

end EasyNet.C03

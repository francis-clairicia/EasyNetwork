/-
  Specification lemmas for substring search (`matchAt`, `findIn`, `findFrom`, `firstOcc`): what a search result
  says about the matches, and how results move between a buffer, its prefixes and its suffixes.
-/
import EasyNet.Model.Bytes
namespace EasyNet

theorem matchAt_append (sep buf x : Bytes) (j : Nat) (h : j + sep.length ≤ buf.length) :
    matchAt sep (buf ++ x) j = matchAt sep buf j := by
  unfold matchAt
  rw [List.drop_append_of_le_length (Nat.le_trans (Nat.le_add_right ..) h),
    List.take_append_of_le_length (by rw [List.length_drop]; exact Nat.le_sub_of_add_le' h)]

theorem matchAt_short (sep buf : Bytes) (j : Nat) (hsep : sep ≠ []) (h : buf.length < j + sep.length) :
    matchAt sep buf j = false := by
  have hpos : 0 < sep.length := List.length_pos_iff.mpr hsep
  apply beq_false_of_ne
  intro he
  have hl := List.length_take_le' sep.length (buf.drop j)
  rw [he, List.length_drop] at hl
  omega

theorem findIn_some (sep buf : Bytes) (off stop i : Nat) (h : findIn sep buf off stop = some i) :
    off ≤ i ∧ i + sep.length ≤ stop ∧ matchAt sep buf i = true ∧
    ∀ j, off ≤ j → j < i → matchAt sep buf j = false := by
  fun_induction findIn sep buf off stop with
  | case1 off hg hm =>
    cases h
    exact ⟨Nat.le_refl _, hg.1, hm, fun j h1 h2 => absurd h2 (Nat.not_lt.mpr h1)⟩
  | case2 off hg hm ih =>
    have := ih h
    refine ⟨Nat.le_of_succ_le this.1, this.2.1, this.2.2.1, fun j h1 h2 => ?_⟩
    by_cases hj : off = j
    · exact hj ▸ Bool.eq_false_iff.mpr hm
    · exact this.2.2.2 j (Nat.lt_of_le_of_ne h1 hj) h2
  | case3 off hg => cases h

theorem findIn_none (sep buf : Bytes) (off stop : Nat) (hsep : sep ≠ []) (h : findIn sep buf off stop = none) :
    ∀ j, off ≤ j → j + sep.length ≤ stop → matchAt sep buf j = false := by
  have hpos : 0 < sep.length := List.length_pos_iff.mpr hsep
  fun_induction findIn sep buf off stop with
  | case1 off hg hm => cases h
  | case2 off hg hm ih =>
    intro j h1 h2
    by_cases hj : off = j
    · exact hj ▸ Bool.eq_false_iff.mpr hm
    · exact ih h j (Nat.lt_of_le_of_ne h1 hj) h2
  | case3 off hg =>
    -- the search stopped at once: no window starting at or after `off` fits below `stop`
    intro j h1 h2
    exact absurd ⟨Nat.le_trans (Nat.add_le_add_right h1 _) h2,
      Nat.lt_of_lt_of_le (Nat.lt_add_of_pos_right hpos) (Nat.le_trans (Nat.add_le_add_right h1 _) h2)⟩ hg

theorem findIn_eq_none (sep buf : Bytes) (off stop : Nat)
    (h : ∀ j, off ≤ j → j + sep.length ≤ stop → matchAt sep buf j = false) :
    findIn sep buf off stop = none := by
  cases hf : findIn sep buf off stop with
  | none => rfl
  | some i =>
    have hs := findIn_some sep buf off stop i hf
    rw [h i hs.1 hs.2.1] at hs
    cases hs.2.2.1

theorem findIn_eq_some (sep buf : Bytes) (off stop i : Nat) (hsep : sep ≠ [])
    (h1 : off ≤ i) (h2 : i + sep.length ≤ stop) (h3 : matchAt sep buf i = true)
    (h4 : ∀ j, off ≤ j → j < i → matchAt sep buf j = false) :
    findIn sep buf off stop = some i := by
  cases hf : findIn sep buf off stop with
  | none => rw [findIn_none sep buf off stop hsep hf i h1 h2] at h3; cases h3
  | some i' =>
    -- both positions match and nothing matches before either: they coincide
    have hs := findIn_some sep buf off stop i' hf
    rcases Nat.lt_trichotomy i' i with hlt | heq | hgt
    · rw [h4 i' hs.1 hlt] at hs; cases hs.2.2.1
    · rw [heq]
    · rw [hs.2.2.2 i h1 hgt] at h3; cases h3

theorem findIn_resume (sep buf : Bytes) (off stop : Nat) (hsep : sep ≠ [])
    (h : ∀ j, j < off → matchAt sep buf j = false) :
    findIn sep buf off stop = findIn sep buf 0 stop := by
  cases hf : findIn sep buf off stop with
  | none =>
    symm; apply findIn_eq_none
    intro j _ hj
    by_cases hlt : j < off
    · exact h j hlt
    · exact findIn_none sep buf off stop hsep hf j (by omega) hj
  | some i =>
    have := findIn_some sep buf off stop i hf
    symm; apply findIn_eq_some sep buf 0 stop i hsep (by omega) this.2.1 this.2.2.1
    intro j _ hj
    by_cases hlt : j < off
    · exact h j hlt
    · exact this.2.2.2 j (by omega) hj

theorem matchAt_take (sep buf : Bytes) (j stop : Nat) (h : j + sep.length ≤ stop) :
    matchAt sep (buf.take stop) j = matchAt sep buf j := by
  unfold matchAt
  rw [List.drop_take, List.take_take, Nat.min_eq_left (Nat.le_sub_of_add_le' h)]

theorem findIn_take (sep buf : Bytes) (off stop : Nat) :
    findIn sep buf off stop = findIn sep (buf.take stop) off stop := by
  fun_induction findIn sep buf off stop with
  | case1 off hg hm =>
    rw [findIn.eq_1]; simp [hg, matchAt_take _ _ _ _ hg.1, hm]
  | case2 off hg hm ih =>
    rw [findIn.eq_1 sep (buf.take stop)]; simp [hg, matchAt_take _ _ _ _ hg.1, hm, ih]
  | case3 off hg => rw [findIn.eq_1]; simp [hg]

theorem findIn_window (sep buf : Bytes) (off stop : Nat) (hsep : sep ≠ []) (hstop : stop ≤ buf.length)
    (h : ∀ j, j < off → matchAt sep (buf.take stop) j = false) :
    findIn sep buf off stop = firstOcc sep (buf.take stop) := by
  unfold firstOcc findFrom
  rw [findIn_take, List.length_take, Nat.min_eq_left hstop]
  exact findIn_resume sep _ off _ hsep h

theorem firstOcc_some (sep b : Bytes) (i : Nat) (h : firstOcc sep b = some i) :
    i + sep.length ≤ b.length ∧ matchAt sep b i = true ∧ ∀ j, j < i → matchAt sep b j = false :=
  have hs := findIn_some sep b 0 b.length i h
  ⟨hs.2.1, hs.2.2.1, fun j hj => hs.2.2.2 j (Nat.zero_le _) hj⟩

theorem firstOcc_none (sep b : Bytes) (hsep : sep ≠ []) (h : firstOcc sep b = none) (j : Nat)
    (hj : j + sep.length ≤ b.length) : matchAt sep b j = false :=
  findIn_none sep b 0 b.length hsep h j (Nat.zero_le _) hj

theorem firstOcc_eq_some (sep b : Bytes) (i : Nat) (hsep : sep ≠ []) (h1 : i + sep.length ≤ b.length)
    (h2 : matchAt sep b i = true) (h3 : ∀ j, j < i → matchAt sep b j = false) : firstOcc sep b = some i :=
  findIn_eq_some sep b 0 b.length i hsep (Nat.zero_le _) h1 h2 (fun j _ hj => h3 j hj)

theorem firstOcc_eq_none_of_short (sep b : Bytes) (off : Nat) (h : ∀ j, j < off → matchAt sep b j = false)
    (hshort : b.length < off + sep.length) : firstOcc sep b = none :=
  findIn_eq_none sep b 0 b.length (fun j _ hj => h j (by omega))

theorem firstOcc_none_nil (sep : Bytes) (hsep : sep ≠ []) : firstOcc sep [] = none := by
  have hpos : 0 < sep.length := List.length_pos_iff.mpr hsep
  apply findIn_eq_none; intro j _ hj
  have : j + sep.length ≤ 0 := hj; omega

theorem firstOcc_append_some (sep b x : Bytes) (i : Nat) (hsep : sep ≠ []) (h : firstOcc sep b = some i) :
    firstOcc sep (b ++ x) = some i := by
  have hs := firstOcc_some sep b i h
  apply firstOcc_eq_some sep (b ++ x) i hsep (by rw [List.length_append]; exact Nat.le_trans hs.1 (Nat.le_add_right ..))
  · rw [matchAt_append _ _ _ _ hs.1]; exact hs.2.1
  · intro j hj
    rw [matchAt_append _ _ _ _ (Nat.le_trans (Nat.add_le_add_right (Nat.le_of_lt hj) _) hs.1)]; exact hs.2.2 j hj

theorem firstOcc_prefix_none (sep b x : Bytes) (hsep : sep ≠ []) (h : firstOcc sep (b ++ x) = none) :
    firstOcc sep b = none := by
  cases hb : firstOcc sep b with
  | none => rfl
  | some i => rw [firstOcc_append_some sep b x i hsep hb] at h; cases h

theorem firstOcc_prefix_short (sep b x : Bytes) (i : Nat) (hsep : sep ≠ [])
    (h : firstOcc sep (b ++ x) = some i) (hb : firstOcc sep b = none) : b.length < i + sep.length := by
  apply Nat.lt_of_not_le
  intro hle
  have hs := (firstOcc_some _ _ _ h).2.1
  rw [matchAt_append _ _ _ _ hle, firstOcc_none sep b hsep hb i hle] at hs
  cases hs

theorem firstOcc_payload_none (sep p : Bytes) (hsep : sep ≠ []) (h : firstOcc sep (p ++ sep) = some p.length) :
    firstOcc sep p = none := by
  have hpos : 0 < sep.length := List.length_pos_iff.mpr hsep
  cases hf : firstOcc sep p with
  | none => rfl
  | some i =>
    have hi := (firstOcc_some _ _ _ hf).1
    rw [firstOcc_append_some sep p sep i hsep hf] at h
    injection h with h
    omega

theorem matchAt_drop (sep X : Bytes) (k i : Nat) : matchAt sep (X.drop k) i = matchAt sep X (k + i) := by
  unfold matchAt
  rw [List.drop_drop]

theorem firstOcc_suffix (sep big : Bytes) (hsep : sep ≠ []) (hbig : firstOcc sep (big ++ sep) = some big.length)
    (k : Nat) (hk : k ≤ big.length) : firstOcc sep (big.drop k ++ sep) = some (big.length - k) := by
  have hs := firstOcc_some _ _ _ hbig
  have hX : big.drop k ++ sep = (big ++ sep).drop k := by
    rw [List.drop_append_of_le_length hk]
  apply firstOcc_eq_some sep _ (big.length - k) hsep (by simp)
  · rw [hX, matchAt_drop, Nat.add_sub_cancel' hk]; exact hs.2.1
  · intro j hj
    rw [hX, matchAt_drop]
    exact hs.2.2 (k + j) (by omega)

end EasyNet

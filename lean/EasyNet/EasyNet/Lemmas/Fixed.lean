/-
  Fixed-size framing: read_exactly (copying) and FixedSizePacketSerializer.buffered_incremental_deserialize
  refine `RE.spec n`, which satisfies the `SpecLaws` (no size errors exist for this framer).
-/
import EasyNet.Lemmas.ConsumerSim
import EasyNet.Lemmas.BufConsumerSim
namespace EasyNet

theorem RE.spec_of_lt {n : Nat} {b : Bytes} (h : b.length < n) : RE.spec n b = .need := if_pos h

theorem RE.spec_of_le {n : Nat} {b : Bytes} (h : n ≤ b.length) : RE.spec n b = .done (b.take n) (b.drop n) :=
  if_neg (Nat.not_lt.mpr h)

theorem RE.spec_done {n : Nat} {b d r : Bytes} (h : RE.spec n b = .done d r) :
    n ≤ b.length ∧ d = b.take n ∧ r = b.drop n := by
  rw [RE.spec] at h
  split at h
  · cases h
  · injection h with hd hr; exact ⟨Nat.le_of_not_lt ‹_›, hd.symm, hr.symm⟩

theorem RE.spec_ne_fail (n : Nat) (b r : Bytes) : RE.spec n b ≠ .fail r := by
  rw [RE.spec]; split <;> exact fun h => by cases h

theorem RE.spec_prog (n : Nat) (hn : 0 < n) : ProgLaws (RE.spec n) := by
  refine ⟨fun b d r h => ?_, fun b r h => absurd h (RE.spec_ne_fail n b r)⟩
  obtain ⟨hle, _, rfl⟩ := RE.spec_done h
  rw [List.length_drop]; omega

def RE.Inv (n : Nat) (s : REState) (b : Bytes) : Prop := s.buf = b

theorem RE.refines (n : Nat) : Refines RE.init (RE.feed n) (RE.spec n) (RE.Inv n) := by
  refine ⟨rfl, fun s b c h => ?_⟩
  rw [RE.Inv] at h; subst h
  rw [RE.feed, RE.spec]
  split
  · exact ⟨rfl, fun s' hs' => by injection hs' with hs'; subst hs'; rfl⟩
  · exact ⟨rfl, fun s' hs' => by cases hs'⟩

def BFX.Inv (s : BFXState) (b : Bytes) : Prop := s.nread = b.length

theorem BFX.refines (n cap : Nat) (hn : 0 < n) :
    BRefines BFX.init (BFX.feed n) (·.nread) (RE.spec n) BFX.Inv cap := by
  have P := RE.spec_prog n hn
  refine ⟨rfl, fun s b h => h, fun s buffer total _ hinv hfit => ?_, P.progress_done, P.progress_fail⟩
  have hl : (buffer.take (s.nread + total)).length = s.nread + total := List.length_take_of_le hfit
  rw [BFX.feed]
  split
  · rw [RE.spec_of_lt (by rw [hl]; assumption)]
    exact ⟨rfl, fun s' st h => by injection h with h1 h2; subst h1 h2; exact ⟨hl.symm, rfl⟩⟩
  · have hle : n ≤ s.nread + total := Nat.le_of_not_lt ‹_›
    rw [RE.spec_of_le (by rw [hl]; exact hle), List.take_take, Nat.min_eq_left hle]
    exact ⟨rfl, fun s' st h => by cases h⟩

theorem RE.spec_laws (n : Nat) (hn : 0 < n) : SpecLaws (RE.spec n) := by
  have P := RE.spec_prog n hn
  refine ⟨P.progress_done, P.progress_fail, fun b x d r h => ?_, fun b x h => ?_,
    fun b x d r _ _ r' => RE.spec_ne_fail n b r'⟩
  · obtain ⟨hle, rfl, rfl⟩ := RE.spec_done h
    rw [RE.spec_of_le (by rw [List.length_append]; omega), List.take_append_of_le_length hle,
      List.drop_append_of_le_length hle]
  · rw [RE.spec] at h
    split at h
    · exact RE.spec_of_lt (by rw [List.length_append] at *; omega)
    · cases h

theorem RE.decode_packets (n : Nat) (hn : 0 < n) (ps : List Bytes) (hv : ∀ p ∈ ps, p.length = n) :
    decodeW (RE.spec n) ps.flatten = ([], ps.map Item.frame) := by
  have h := (RE.spec_prog n hn).decodeW_map_frames id id ps fun p hp rest => by
    show RE.spec n (p ++ rest) = .done p rest
    rw [RE.spec_of_le (by rw [List.length_append, hv p hp]; exact Nat.le_add_right ..), ← hv p hp, List.take_left,
      List.drop_left]
  rwa [List.map_id] at h

end EasyNet

/-
  C20 — the flow-control / sender / write-buffer model (EasyNet/Model/FlowCtl.lean): the branches of its operations
  as case rules; `Good c s t`, "`t` is `s` after flow-control / transport callbacks" as far as waiters and ready queue
  can tell; and "a pending drain waiter implies writing is paused and the connection alive", for every event.
-/
import EasyNet.Model.FlowCtl
namespace EasyNet.C20.FC

/-- sender `i` is parked on a pending drain waiter -/
def Waiting (s : St) (i : Nat) : Prop := (s.senders i).pc = .atWaiter ∧ (s.senders i).fut = .pending

instance (s : St) (i : Nat) : Decidable (Waiting s i) := by unfold Waiting; exact inferInstance

/-- **pendingWaiter → paused ∧ ¬lost** -/
def WInv (s : St) : Prop := ∀ i, Waiting s i → s.paused = true ∧ s.lost = false

theorem upd_self (f : Nat → Sender) (i : Nat) (x : Sender) : upd f i x i = x := if_pos rfl

theorem upd_of_ne (f : Nat → Sender) (x : Sender) {i j : Nat} (h : j ≠ i) : upd f i x j = f j := if_neg h

@[elab_as_elim]
theorem upd_cases {Q : Sender → Prop} (f : Nat → Sender) (i : Nat) (x : Sender) (j : Nat) (hi : j = i → Q x)
    (hne : j ≠ i → Q (f j)) : Q (upd f i x j) :=
  iteInduction hi hne

theorem upd_pc_fut {f : Nat → Sender} {i : Nat} {x : Sender} (hp : x.pc = (f i).pc) (hf : x.fut = (f i).fut)
    (j : Nat) : (upd f i x j).pc = (f j).pc ∧ (upd f i x j).fut = (f j).fut :=
  upd_cases f i x j (fun e => e ▸ ⟨hp, hf⟩) (fun _ => ⟨rfl, rfl⟩)

theorem completeAll_of_waiting (c : Cfg) (v : Fut) {s : St} {i : Nat} (h : Waiting s i) :
    (completeAll c s v).senders i = { s.senders i with fut := v } := if_pos h

theorem completeAll_of_not_waiting (c : Cfg) (v : Fut) {s : St} {i : Nat} (h : ¬ Waiting s i) :
    (completeAll c s v).senders i = s.senders i := if_neg h

@[elab_as_elim]
theorem completeAll_cases {Q : Sender → Prop} (c : Cfg) (s : St) (v : Fut) (i : Nat)
    (h1 : Waiting s i → Q { s.senders i with fut := v }) (h0 : ¬ Waiting s i → Q (s.senders i)) :
    Q ((completeAll c s v).senders i) :=
  iteInduction h1 h0

theorem completeAll_pc (c : Cfg) (s : St) (v : Fut) (i : Nat) :
    ((completeAll c s v).senders i).pc = (s.senders i).pc :=
  completeAll_cases c s v i (fun _ => rfl) (fun _ => rfl)

theorem completeAll_none_waiting (c : Cfg) (s : St) (v : Fut) (hv : v ≠ .pending) (i : Nat) :
    ¬ Waiting (completeAll c s v) i := by
  unfold Waiting
  exact completeAll_cases c s v i (fun _ h => hv h.2) (fun hw => hw)

theorem completeAll_ready (c : Cfg) (v : Fut) {s : St} {i : Nat} (hi : i < c.n) (h : Waiting s i) :
    Handle.task i ∈ (completeAll c s v).ready :=
  List.mem_append_right _ (List.mem_map_of_mem (by simp [pendingIds, hi, h.1, h.2]))

theorem ite_fst {α β : Type} {P : α → Prop} {p : Prop} [Decidable p] {a b : α × β} (ha : p → P a.1)
    (hb : ¬ p → P b.1) : P (if p then a else b).1 :=
  iteInduction (motive := fun r : α × β => P r.1) ha hb

theorem maybePause_of_le {s : St} (h : s.size ≤ s.high) : maybePauseProtocol s = s := if_pos h

section
variable {P : St → Prop} (c : Cfg) (s : St)

@[elab_as_elim]
theorem maybePause_cases (h0 : s.size ≤ s.high ∨ s.protoPaused = true → P s)
    (h1 : ¬ s.size ≤ s.high → P (fcPause { s with protoPaused := true })) : P (maybePauseProtocol s) :=
  iteInduction (fun h => h0 (.inl h)) fun h => iteInduction (fun hp => h0 (.inr hp)) fun _ => h1 h

@[elab_as_elim]
theorem tWrite_cases (n : Nat) (h0 : P s)
    (h1 : ∀ (b : List Nat) (k f : Nat), s.connLost = false → s.flushed ≤ f → f + b.sum = s.flushed + s.size + n →
      P (maybePauseProtocol { s with accepted := s.accepted + n, kroom := k, flushed := f, tbuf := b })) :
    P (tWrite s n).1 :=
  ite_fst (fun _ => h0) fun _ => ite_fst (fun _ => h0) fun hc =>
    have hc : s.connLost = false := Bool.eq_false_iff.mpr hc
    ite_fst
      (fun ht =>
        have hz : s.size = 0 := congrArg List.sum ht
        ite_fst
          (fun _ => by
            -- everything goes to the kernel; the pause check of an empty buffer does nothing
            have := h1 [] (s.kroom - n) (s.flushed + n) hc (Nat.le_add_right _ _) (show s.flushed + n + 0 = _ by omega)
            rw [maybePause_of_le (Nat.zero_le _), ← ht] at this
            exact this)
          fun _ => h1 _ 0 _ hc (Nat.le_add_right _ _) (show s.flushed + s.kroom + (n - s.kroom + 0) = _ by omega))
      fun _ => h1 _ s.kroom _ hc (Nat.le_refl _) (by rw [List.sum_append]; exact (Nat.add_assoc ..).symm)

@[elab_as_elim]
theorem tWriteReady_cases (h0 : P s)
    (h1 : s.connLost = false → min s.size s.kroom ≠ 0 → P (closeCheck c (maybeResumeProtocol c (flushStep s)))) :
    P (tWriteReady c s) :=
  iteInduction (fun _ => h0) fun hn => iteInduction (fun _ => h0) (h1 (by simpa using (not_or.mp hn).2))

@[elab_as_elim]
theorem tWritelines_cases (sizes : List Nat) (h0 : P s)
    (h1 : c.wlp = true → P (maybePauseProtocol (tWriteReady c (extendBuf s sizes))))
    (h2 : ¬ c.wlp = true → P (tWriteReady c (extendBuf s sizes))) : P (tWritelines c s sizes).1 :=
  ite_fst (fun _ => h0) fun _ => ite_fst h1 h2

@[elab_as_elim]
theorem tClose_cases (h0 : P s) (h1 : P { s with closing := true })
    (h2 : P { s with closing := true, connLost := true, ready := s.ready ++ [.connLost none] }) :
    P (tClose c s) :=
  iteInduction (fun _ => h0) fun _ => iteInduction (fun _ => h1) fun _ => iteInduction (fun _ => h2) fun _ => h1

@[elab_as_elim]
theorem drainBody_cases (i : Nat)
    (hf : ∀ r, (r = .ok → s.lost = false ∧ s.paused = false) → P (finish s i r))
    (hp : s.paused = true → s.lost = false →
      P { s with senders := upd s.senders i { (s.senders i) with pc := .atWaiter, fut := .pending } }) :
    P (drainBody c s i) :=
  iteInduction (fun _ => hf _ (fun h => nomatch h)) fun hl =>
    have hl := Bool.eq_false_iff.mpr hl
    iteInduction (fun hp' => hf _ fun _ => ⟨hl, Bool.eq_false_iff.mpr hp'⟩) fun hp' =>
      hp (Decidable.not_not.mp hp') hl

@[elab_as_elim]
theorem runTask_cases (i : Nat)
    (h0 : (s.senders i).pc = .idle ∨ Waiting s i → P s)
    (hf : ∀ r, (r = .ok → (s.senders i).pc = .atWaiter ∧ (s.senders i).fut = .result) → P (finish s i r))
    (ho : ∀ op, (s.senders i).pc = .created op → P (runOp c s i op))
    (hb : (s.senders i).pc = .atYield → P (drainBody c s i)) : P (runTask c s i) := by
  unfold runTask
  split
  · exact h0 (Or.inl ‹_›)
  · rename_i op hpc
    split
    · exact hf _ (fun h => nomatch h)
    · exact ho op hpc
  · rename_i hpc
    split
    · exact hf _ (fun h => nomatch h)
    · exact hb hpc
  · rename_i hpc
    split
    · exact hf _ (fun h => nomatch h)
    · split
      · exact h0 (Or.inr ⟨hpc, ‹_›⟩)
      · exact hf _ (fun h => nomatch h)
      · exact hf _ (fun _ => ⟨hpc, ‹_›⟩)
      · exact hf _ (fun h => nomatch h)

@[elab_as_elim]
theorem cancelTask_cases (i : Nat) (h0 : (s.senders i).pc = .idle → P s)
    (h1 : ¬ Waiting s i → P { s with senders := upd s.senders i { (s.senders i) with mustCancel := true } })
    (h2 : Waiting s i →
      P { s with senders := upd s.senders i { (s.senders i) with fut := .cancelled }, ready := s.ready ++ [.task i] }) :
    P (cancelTask s i) := by
  unfold cancelTask
  split
  · exact h0 ‹_›
  · rename_i hpc; exact h1 (fun h => nomatch hpc.symm.trans h.1)
  · rename_i hpc; exact h1 (fun h => nomatch hpc.symm.trans h.1)
  · rename_i hpc
    split
    · exact h2 ⟨hpc, ‹_›⟩
    · exact h1 (fun h => absurd h.2 ‹_›)

end

structure Good (c : Cfg) (s t : St) : Prop where
  sub : ∀ h, h ∈ s.ready → h ∈ t.ready
  pc : ∀ i, (t.senders i).pc = (s.senders i).pc
  wk : ∀ i, i < c.n → Waiting s i → Waiting t i ∨ Handle.task i ∈ t.ready
  nw : ∀ i, Waiting t i → Waiting s i ∧ (s.paused = true → t.paused = true) ∧ (s.lost = false → t.lost = false)

theorem Good.refl (c : Cfg) (s : St) : Good c s s :=
  ⟨fun _ h => h, fun _ => rfl, fun _ _ h => Or.inl h, fun _ h => ⟨h, id, id⟩⟩

section
variable {c : Cfg} {s t : St}

theorem Good.winv (g : Good c s t) (h : WInv s) : WInv t := fun i hi =>
  have ⟨hw, hp, hl⟩ := g.nw i hi
  ⟨hp (h i hw).1, hl (h i hw).2⟩

theorem Good.same {u : St} (g : Good c s t)
    (hs : ∀ i, (u.senders i).pc = (t.senders i).pc ∧ (u.senders i).fut = (t.senders i).fut :=
      by exact fun _ => ⟨rfl, rfl⟩)
    (hr : ∀ h, h ∈ t.ready → h ∈ u.ready := by exact fun _ h => h)
    (hp : t.paused = true → u.paused = true := by exact id) (hl : u.lost = t.lost := by rfl) : Good c s u := by
  have hw : ∀ i, Waiting u i ↔ Waiting t i := fun i => by unfold Waiting; rw [(hs i).1, (hs i).2]
  exact ⟨fun h hh => hr h (g.sub h hh), fun i => (hs i).1.trans (g.pc i),
    fun i hi h => (g.wk i hi h).imp (hw i).mpr (hr _),
    fun i h => have ⟨a, b, d⟩ := g.nw i ((hw i).mp h); ⟨a, hp ∘ b, by rw [hl]; exact d⟩⟩

theorem good_completeAll {u : St} (g : Good c s t) {v : Fut} (hv : v ≠ .pending)
    (hs : u.senders = t.senders := by rfl) (hr : u.ready = t.ready := by rfl) : Good c s (completeAll c u v) := by
  refine ⟨fun h hh => List.mem_append_left _ (hr ▸ g.sub h hh), fun i => by rw [completeAll_pc, hs]; exact g.pc i,
    fun i hi h => Or.inr ?_, fun i h => absurd h (completeAll_none_waiting c u v hv i)⟩
  rcases g.wk i hi h with h | h
  · exact completeAll_ready c v hi (by unfold Waiting; rw [hs]; exact h)
  · exact List.mem_append_left _ (hr ▸ h)

theorem good_fcPause (g : Good c s t) : Good c s (fcPause t) :=
  g.same (hp := fun _ => rfl)

theorem good_fcResume (g : Good c s t) : Good c s (fcResume c t) :=
  good_completeAll g (fun h => nomatch h)

theorem good_fcLost (g : Good c s t) {e : Option Nat} : Good c s (fcLost c t e) :=
  iteInduction (fun _ => g) fun _ => good_completeAll g (fun h => nomatch h)

theorem good_maybePause (g : Good c s t) : Good c s (maybePauseProtocol t) :=
  maybePause_cases t (fun _ => g) (fun _ => good_fcPause g.same)

theorem good_maybeResume (g : Good c s t) : Good c s (maybeResumeProtocol c t) :=
  iteInduction (fun _ => good_completeAll g (fun h => nomatch h)) fun _ => g

theorem good_closeCheck (g : Good c s t) : Good c s (closeCheck c t) :=
  iteInduction (fun _ => good_fcLost g.same) fun _ => g

theorem good_tWriteReady (g : Good c s t) : Good c s (tWriteReady c t) :=
  tWriteReady_cases c t g (fun _ _ => good_closeCheck (good_maybeResume g.same))

theorem good_tWrite (g : Good c s t) {n : Nat} : Good c s (tWrite t n).1 :=
  tWrite_cases t n g (fun _ _ _ _ _ _ => good_maybePause g.same)

theorem good_tSendto (g : Good c s t) {n : Nat} : Good c s (tSendto t n).1 :=
  ite_fst (fun _ => g) fun _ => ite_fst (fun _ => g) fun _ => ite_fst (fun _ => g.same) fun _ => good_maybePause g.same

theorem good_tWritelines (g : Good c s t) {sizes : List Nat} : Good c s (tWritelines c t sizes).1 :=
  have g1 : Good c s (extendBuf t sizes) := g.same
  tWritelines_cases c t sizes g (fun _ => good_maybePause (good_tWriteReady g1)) (fun _ => good_tWriteReady g1)

theorem good_tSetLimitsZero (g : Good c s t) : Good c s (tSetLimitsZero t) :=
  good_maybePause g.same

theorem good_tSendtoReady (g : Good c s t) : Good c s (tSendtoReady c t) :=
  iteInduction (fun _ => g) fun _ => good_closeCheck (good_maybeResume g.same)

theorem good_tClose (g : Good c s t) : Good c s (tClose c t) :=
  tClose_cases c t g g.same (g.same (hr := fun _ h => List.mem_append_left _ h))

theorem good_tForceClose (g : Good c s t) {e : Option Nat} : Good c s (tForceClose t e) :=
  iteInduction (fun _ => g) fun _ => g.same (hr := fun _ h => List.mem_append_left _ h)

theorem good_setEndOff (g : Good c s t) {i : Nat} {acc : Bool} : Good c s (setEndOff t i acc) :=
  iteInduction (fun _ => g.same (hs := upd_pc_fut rfl rfl)) fun _ => g

@[elab_as_elim]
theorem runOp_cases {P : St → Prop} (c : Cfg) (s : St) (i : Nat) (op : Op)
    (h : ∀ t, Good c s t → P (drainHead c t i)) : P (runOp c s i op) := by
  have g := Good.refl c s
  cases op with
  | drain => exact h s g
  | send n =>
    simp only [runOp]
    split
    · exact h _ (good_setEndOff (good_tSendto g))
    · exact h _ (good_setEndOff (good_tWrite g))
  | sendv sizes =>
    simp only [runOp]
    split
    · exact h _ (good_tSetLimitsZero (good_setEndOff (good_tWritelines g)))
    · exact h _ (good_setEndOff (good_tWritelines g))

end

@[elab_as_elim]
theorem step_cases {P : St → Prop} (c : Cfg) (s : St) (ev : Ev)
    (hs : ∀ i op, i < c.n → P { s with senders := upd s.senders i ⟨.created op, .pending, false, none⟩,
                                        ready := s.ready ++ [.task i] })
    (hg : ∀ t, Good c s t → P t) (hc : ∀ i, P (cancelTask s i))
    (ht : P (endTurn (s.ready.foldl (runHandle c) (beginTurn s)))) : P (step c s ev).1 := by
  have g := Good.refl c s
  cases ev with
  | start i op =>
    simp only [step]
    split
    · rename_i hok
      exact hs i op (by simp [startOk] at hok; exact hok.1.1)
    · exact hg s g
  | pause => exact hg _ (good_fcPause g)
  | resume => exact hg _ (good_fcResume g)
  | kernel k =>
    simp only [step]
    split
    · exact hg s g
    · exact hg _ (good_tWriteReady g.same)
    · exact hg _ (good_tSendtoReady g.same)
  | lost e => exact hg _ (good_fcLost g)
  | fail e =>
    simp only [step]
    split
    · exact hg s g
    · exact hg _ (good_tForceClose g)
  | close => exact hg _ (good_tClose g)
  | cancel i => exact hc i
  | turn => exact ht

/-- `P q s`: `s` with the handles `q` of the turn still to run -/
theorem turn_preserves {P : List Handle → St → Prop} {c : Cfg}
    (ht : ∀ q s i, P (.task i :: q) s → P q (runTask c s i))
    (hl : ∀ q s e, P (.connLost e :: q) s → P q (fcLost c s e)) :
    ∀ (hs : List Handle) {s : St}, P hs s → P [] (hs.foldl (runHandle c) s) := by
  intro hs
  induction hs with
  | nil => exact id
  | cons x xs ih =>
    intro s h
    cases x with
    | task i => exact ih (ht xs s i h)
    | connLost e => exact ih (hl xs s e h)

theorem run_preserves {P : St → Prop} {c : Cfg} :
    ∀ (evs : List Ev) {s : St}, (∀ s, ∀ e ∈ evs, P s → P (step c s e).1) → P s → P (run c s evs).1 := by
  intro evs
  induction evs with
  | nil => exact fun _ h => h
  | cons e es ih =>
    exact fun hP h => ih (fun s x hx => hP s x (List.mem_cons_of_mem _ hx)) (hP _ e (List.mem_cons_self ..) h)

theorem winv_init (c : Cfg) : WInv (St.init c) := fun _ h => nomatch h.1

theorem winv_upd {s t : St} (i : Nat) (x : Sender) (h : WInv s) (hs : t.senders = upd s.senders i x)
    (hp : t.paused = s.paused) (hl : t.lost = s.lost)
    (hx : x.pc = .atWaiter → x.fut = .pending → s.paused = true ∧ s.lost = false) : WInv t := by
  intro j
  unfold Waiting
  rw [hs, hp, hl]
  exact upd_cases s.senders i x j (fun _ hj => hx hj.1 hj.2) (fun _ => h j)

theorem winv_finish {s : St} (i : Nat) (r : Res) (h : WInv s) : WInv (finish s i r) :=
  winv_upd i _ h rfl rfl rfl (fun hpc => nomatch hpc)

theorem winv_drainBody (c : Cfg) {s : St} (i : Nat) (h : WInv s) : WInv (drainBody c s i) :=
  drainBody_cases c s i (fun r _ => winv_finish i r h)
    (fun hp hl => winv_upd i _ h rfl rfl rfl (fun _ _ => ⟨hp, hl⟩))

theorem winv_drainHead (c : Cfg) {s : St} (i : Nat) (h : WInv s) : WInv (drainHead c s i) :=
  iteInduction (fun _ => winv_upd i _ h rfl rfl rfl (fun hpc => nomatch hpc)) fun _ => winv_drainBody c i h

theorem winv_runTask (c : Cfg) {s : St} (i : Nat) (h : WInv s) : WInv (runTask c s i) :=
  runTask_cases c s i (fun _ => h) (fun r _ => winv_finish i r h)
    (fun op _ => runOp_cases c s i op fun _ g => winv_drainHead c i (g.winv h)) (fun _ => winv_drainBody c i h)

theorem winv_step (c : Cfg) {s : St} (ev : Ev) (h : WInv s) : WInv (step c s ev).1 :=
  step_cases c s ev (fun i _ _ => winv_upd i _ h rfl rfl rfl (fun hpc => nomatch hpc)) (fun _ g => g.winv h)
    (fun i => cancelTask_cases s i (fun _ => h) (fun _ => winv_upd i _ h rfl rfl rfl (fun a b => h i ⟨a, b⟩))
      (fun _ => winv_upd i _ h rfl rfl rfl (fun _ hf => nomatch hf)))
    (turn_preserves (P := fun _ => WInv) (fun _ _ i => winv_runTask c i)
      (fun _ s _ => (good_fcLost (Good.refl c s)).winv) s.ready (s := beginTurn s) h)

theorem winv_run (c : Cfg) (evs : List Ev) {s : St} (h : WInv s) : WInv (run c s evs).1 :=
  run_preserves evs (fun _ e _ => winv_step c e) h

/-- what its task ends with when a completed waiter wakes it -/
def Fut.res : Fut → Res
  | .result => .ok
  | .exc e => .err e
  | _ => .cancelled

theorem runTask_woken (c : Cfg) {s : St} {i : Nat} (h1 : (s.senders i).pc = .atWaiter)
    (h2 : (s.senders i).fut ≠ .pending) (h3 : (s.senders i).mustCancel = false) :
    runTask c s i = finish s i (s.senders i).fut.res := by
  unfold runTask
  simp only [h1, h3, Bool.false_eq_true, if_false]
  cases hf : (s.senders i).fut with
  | pending => exact absurd hf h2
  | _ => rfl

/-- `v`: a result for `resume_writing`, an exception for `connection_lost` -/
theorem completeAll_wakes (c : Cfg) {s : St} {v : Fut} (hv : v ≠ .pending) {i : Nat} (hi : i < c.n) (hw : Waiting s i) :
    (completeAll c s v).senders i = { s.senders i with fut := v } ∧ Handle.task i ∈ (completeAll c s v).ready ∧
    (∀ j, ¬ Waiting (completeAll c s v) j) ∧
    (((completeAll c s v).senders i).mustCancel = false →
      ((runTask c (completeAll c s v) i).senders i).pc = .idle ∧
      (runTask c (completeAll c s v) i).doneLog = (i, v.res, (s.senders i).endOff) :: s.doneLog) := by
  have e := completeAll_of_waiting c v hw
  refine ⟨e, completeAll_ready c v hi hw, completeAll_none_waiting c s v hv,
    fun hmc => ?_⟩
  rw [runTask_woken c (by rw [e]; exact hw.1) (by rw [e]; exact hv) hmc]
  refine ⟨congrArg Sender.pc (upd_self ..), ?_⟩
  show (i, ((completeAll c s v).senders i).fut.res, ((completeAll c s v).senders i).endOff) :: s.doneLog = _
  rw [e]

end EasyNet.C20.FC

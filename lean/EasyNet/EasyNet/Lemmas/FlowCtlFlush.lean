/-
  C20 — the byte account of the stream transport ("writing is paused whenever the user-space buffer is not empty")
  needed for "a send that returns is flushed".
  Hypotheses of this part: write-buffer limits (0, 0), no pause_writing/resume_writing other than the transport's own.
-/
import EasyNet.Lemmas.FlowCtl
namespace EasyNet.C20.FC

/-- the byte account. The last field, **if writing is not paused (and the connection not lost) every accepted byte
    is flushed**, holds only under `b` as long as the transport lives: between a `writelines` and the next pause
    check it may be false -/
structure Acct (b : Prop) (s : St) : Prop where
  high0 : s.high = 0
  low0 : s.low = 0
  acc : s.connLost = false → s.accepted = s.flushed + s.size
  pp : s.lost = false → s.paused = s.protoPaused
  fl : b ∨ s.connLost = true → s.lost = false → s.paused = false → s.accepted = s.flushed

def St.acct (s : St) := (s.high, s.low, s.connLost, s.accepted, s.flushed, s.tbuf, s.lost, s.paused, s.protoPaused)

theorem Acct.same {b : Prop} {s u : St} (h : Acct b s) (e : u.acct = s.acct := by rfl) : Acct b u := by
  simp only [St.acct, Prod.mk.injEq] at e
  obtain ⟨h1, h2, h3, h4, h5, h6, h7, h8, h9⟩ := e
  refine ⟨h1.trans h.high0, h2.trans h.low0, ?_, ?_, ?_⟩
  · rw [h3, h4, h5, St.size, h6]; exact h.acc
  · rw [h7, h8, h9]; exact h.pp
  · rw [h3, h7, h8, h4, h5]; exact h.fl

theorem dropBytes_sum : ∀ (l : List Nat) (k : Nat), k ≤ l.sum → (dropBytes k l).sum + k = l.sum
  | [], k, h => by cases Nat.le_zero.mp h; rfl
  | b :: bs, k, h => by
    rw [List.sum_cons] at h
    rw [dropBytes]
    by_cases hb : b ≤ k
    · have := dropBytes_sum bs (k - b) (by omega)
      rw [if_pos hb, List.sum_cons]; omega
    · rw [if_neg hb, List.sum_cons, List.sum_cons]; omega

structure SInv (s : St) : Prop where
  off : ∀ i e, (s.senders i).endOff = some e → e ≤ s.accepted
  woken : ∀ i e, (s.senders i).pc = .atWaiter → (s.senders i).fut = .result → (s.senders i).endOff = some e →
    e ≤ s.flushed
  logged : ∀ i e, (i, Res.ok, some e) ∈ s.doneLog → e ≤ s.flushed

theorem SInv.mono {s t : St} (h : SInv s) (ha : s.accepted ≤ t.accepted := by exact Nat.le_refl _)
    (hf : s.flushed ≤ t.flushed := by exact Nat.le_refl _) (hs : t.senders = s.senders := by rfl)
    (hd : t.doneLog = s.doneLog := by rfl) : SInv t := by
  refine ⟨?_, ?_, ?_⟩
  · intro i e he; rw [hs] at he; exact Nat.le_trans (h.off i e he) ha
  · intro i e h1 h2 h3; rw [hs] at h1 h2 h3; exact Nat.le_trans (h.woken i e h1 h2 h3) hf
  · intro i e he; rw [hd] at he; exact Nat.le_trans (h.logged i e he) hf

theorem sinv_completeAll (c : Cfg) {s : St} {v : Fut} (h : SInv s) (hv : v = .result → s.accepted ≤ s.flushed) :
    SInv (completeAll c s v) :=
  ⟨fun i e => completeAll_cases c s v i (fun _ => h.off i e) (fun _ => h.off i e),
    fun i e => completeAll_cases c s v i (fun _ _ h2 h3 => Nat.le_trans (h.off i e h3) (hv h2)) (fun _ => h.woken i e),
    h.logged⟩

structure FInv (b : Prop) (s : St) : Prop extends Acct b s, SInv s

theorem finv_init (c : Cfg) (h : c.high = 0) (l : c.low = 0) : FInv True (St.init c) :=
  ⟨⟨h, l, fun _ => rfl, fun _ => rfl, fun _ _ _ => rfl⟩,
    (fun _ _ he => nomatch he), (fun _ _ hpc => nomatch hpc), fun _ _ hm => nomatch hm⟩

theorem FInv.mono {b b' : Prop} {s : St} (h : FInv b s) (hb : b' → b) : FInv b' s :=
  ⟨⟨h.high0, h.low0, h.acc, h.pp, fun hb' => h.fl (hb'.imp_left hb)⟩, h.toSInv⟩

theorem finv_upd {b : Prop} {s t : St} (i : Nat) (x : Sender) (h : FInv b s) (hs : t.senders = upd s.senders i x)
    (hoff : ∀ e, x.endOff = some e → e ≤ s.accepted)
    (hwoken : ∀ e, x.pc = .atWaiter → x.fut = .result → x.endOff = some e → e ≤ s.flushed)
    (hlog : ∀ j e, (j, Res.ok, some e) ∈ t.doneLog → (j, Res.ok, some e) ∈ s.doneLog ∨ e ≤ s.flushed :=
      by exact fun _ _ => Or.inl)
    (ha : t.acct = s.acct := by rfl) : FInv b t := by
  have g := h.toAcct.same ha
  simp only [St.acct, Prod.mk.injEq] at ha
  obtain ⟨-, -, -, hacc, hf, -⟩ := ha
  refine ⟨g, fun j e => ?_, fun j e => ?_, fun j e he => ?_⟩
  · rw [hs, hacc]; exact upd_cases s.senders i x j (fun _ => hoff e) (fun _ => h.off j e)
  · rw [hs, hf]; exact upd_cases s.senders i x j (fun _ => hwoken e) (fun _ => h.woken j e)
  · rw [hf]; exact (hlog j e he).elim (h.logged j e) id

section
variable {b : Prop} (c : Cfg) {s : St}

theorem finv_maybePause (h : FInv b s) : FInv True (maybePauseProtocol s) := by
  refine maybePause_cases s (fun hs => ⟨⟨h.high0, h.low0, h.acc, h.pp, fun _ hl hp => ?_⟩, h.toSInv⟩)
    (fun _ => ?_)
  · rcases hs with hs | hs
    · have hz : s.size = 0 := Nat.le_zero.mp (h.high0 ▸ hs)
      cases hc : s.connLost with
      | false => have := h.acc hc; omega
      | true => exact h.fl (Or.inr hc) hl hp
    · exact absurd ((h.pp hl).symm.trans hp) (by rw [hs]; exact Bool.noConfusion)
  · exact ⟨⟨h.high0, h.low0, h.acc, fun _ => rfl, fun _ _ hp => nomatch hp⟩, h.toSInv.mono⟩

theorem finv_fcLost (e : Option Nat) (h : FInv b s) : FInv b (fcLost c s e) :=
  iteInduction (fun _ => h) fun _ =>
    ⟨⟨h.high0, h.low0, h.acc, (fun hl => nomatch hl), (fun _ hl => nomatch hl)⟩,
      sinv_completeAll c h.toSInv.mono (fun hv => nomatch hv)⟩

theorem finv_maybeResume (h : FInv b s) (hc : s.connLost = false) : FInv b (maybeResumeProtocol c s) :=
  iteInduction (fun hr => by
    have hz : s.size = 0 := Nat.le_zero.mp (h.low0 ▸ hr.2)
    have := h.acc hc
    have : s.accepted = s.flushed := by omega
    exact ⟨⟨h.high0, h.low0, h.acc, fun _ => rfl, fun _ _ _ => this⟩,
      sinv_completeAll c h.toSInv.mono (fun _ => Nat.le_of_eq this)⟩)
    fun _ => h

theorem finv_closeCheck (h : FInv b s) : FInv b (closeCheck c s) :=
  iteInduction (fun ht => by
    have : s.lost = false → s.paused = false → s.accepted = s.flushed := by
      cases hc : s.connLost with
      | true => exact h.fl (Or.inr hc)
      | false => exact fun _ _ => (h.acc hc).trans (by rw [St.size, ht.1]; exact Nat.add_zero _)
    exact finv_fcLost c none ⟨⟨h.high0, h.low0, (fun hc => nomatch hc), h.pp, fun _ => this⟩, h.toSInv.mono⟩)
    fun _ => h

theorem finv_flushStep (h : FInv b s) (hc : s.connLost = false) (hk : min s.size s.kroom ≠ 0) :
    FInv b (flushStep s) := by
  have hacc := h.acc hc
  refine ⟨⟨h.high0, h.low0, fun _ => ?_, h.pp, fun hb hl hp => ?_⟩, h.toSInv.mono (hf := Nat.le_add_right _ _)⟩
  · have hd := dropBytes_sum s.tbuf (min s.size s.kroom) (Nat.min_le_left _ _)
    show s.accepted = s.flushed + min s.size s.kroom + (dropBytes (min s.size s.kroom) s.tbuf).sum
    rw [St.size] at hacc
    omega
  · -- had everything been flushed there would have been nothing to take
    have := h.fl hb hl hp
    exfalso; omega

theorem finv_tWriteReady (h : FInv b s) : FInv b (tWriteReady c s) :=
  tWriteReady_cases c s h fun hc hk =>
    finv_closeCheck c (finv_maybeResume c (finv_flushStep h hc hk) hc)

theorem finv_tWrite (n : Nat) (h : FInv True s) : FInv True (tWrite s n).1 :=
  tWrite_cases s n h fun b k f hc hle hsum =>
    finv_maybePause (b := False)
      ⟨⟨h.high0, h.low0, (fun _ => by have := h.acc hc; show s.accepted + n = f + b.sum; omega), h.pp,
        fun hb => hb.elim False.elim (fun hcl => nomatch hc.symm.trans hcl)⟩,
       h.toSInv.mono (ha := Nat.le_add_right _ _) (hf := hle)⟩

theorem finv_extendBuf (sizes : List Nat) (h : FInv True s) : FInv False (extendBuf s sizes) := by
  refine ⟨⟨h.high0, h.low0, fun hc => ?_, h.pp, fun hb hl hp => ?_⟩, h.toSInv.mono (ha := ?_)⟩
  · have := h.acc hc
    show (if s.connLost = true then _ else s.accepted + sizes.sum) = s.flushed + (s.tbuf ++ sizes).sum
    rw [if_neg (hc ▸ Bool.false_ne_true), List.sum_append]
    rw [St.size] at this
    omega
  · show (if s.connLost = true then s.accepted else _) = s.flushed
    rw [if_pos (show s.connLost = true from hb.resolve_left id)]
    exact h.fl (Or.inl trivial) hl hp
  · show _ ≤ ite _ _ _
    split <;> omega

theorem finv_tWritelines (sizes : List Nat) (h : FInv True s) : FInv (c.wlp = true) (tWritelines c s sizes).1 :=
  have h1 := finv_tWriteReady c (finv_extendBuf sizes h)
  tWritelines_cases c s sizes (h.mono fun _ => trivial) (fun _ => (finv_maybePause h1).mono fun _ => trivial)
    (fun hw => h1.mono fun hw' => absurd hw' hw)

theorem finv_tSetLimitsZero (h : FInv b s) : FInv True (tSetLimitsZero s) :=
  finv_maybePause (b := b) ⟨⟨rfl, rfl, h.acc, h.pp, h.fl⟩, h.toSInv.mono⟩

theorem finv_tClose (h : FInv True s) : FInv True (tClose c s) :=
  tClose_cases c s h ⟨h.toAcct.same, h.toSInv.mono⟩
    ⟨⟨h.high0, h.low0, (fun hc => nomatch hc), h.pp, fun _ => h.fl (Or.inl trivial)⟩, h.toSInv.mono⟩

theorem finv_tForceClose (e : Option Nat) (h : FInv True s) : FInv True (tForceClose s e) :=
  iteInduction (fun _ => h) fun _ =>
    ⟨⟨h.high0, h.low0, (fun hc => nomatch hc), h.pp, fun _ => h.fl (Or.inl trivial)⟩, h.toSInv.mono⟩

end

theorem setEndOff_pc {s : St} (i acc j) : ((setEndOff s i acc).senders j).pc = (s.senders j).pc := by
  unfold setEndOff
  split
  · exact (upd_pc_fut (by rfl) (by rfl) j).1
  · rfl

theorem winv_setEndOff' {s : St} (i acc) (h : WInv s) : WInv (setEndOff s i acc) :=
  iteInduction (fun _ => winv_upd i _ h rfl rfl rfl (fun a b => h i ⟨a, b⟩)) fun _ => h

theorem finv_finish {b : Prop} {s : St} (i : Nat) (r : Res) (h : FInv b s)
    (hr : r = .ok → ∀ e, (s.senders i).endOff = some e → e ≤ s.flushed) : FInv b (finish s i r) :=
  finv_upd i _ h rfl (h.off i) (fun _ hpc => nomatch hpc) (hlog := fun j e hm => by
    rcases List.mem_cons.mp hm with he | hm
    · injection he with _ he; injection he with hr' he; exact Or.inr (hr hr'.symm e he.symm)
    · exact Or.inl hm)

theorem finv_drainBody (c : Cfg) {s : St} (i : Nat) (h : FInv True s) : FInv True (drainBody c s i) :=
  drainBody_cases c s i
    (fun r hr => finv_finish i r h fun hok e he =>
      -- writing is allowed on a live connection: everything accepted so far is flushed
      h.fl (Or.inl trivial) (hr hok).1 (hr hok).2 ▸ h.off i e he)
    (fun _ _ => finv_upd i _ h rfl (h.off i) (fun _ _ hf => nomatch hf))

theorem finv_drainHead (c : Cfg) {s : St} (i : Nat) (h : FInv True s) : FInv True (drainHead c s i) :=
  iteInduction (fun _ => finv_upd i _ h rfl (h.off i) (fun _ hpc => nomatch hpc)) fun _ => finv_drainBody c i h

theorem finv_setEndOff {b : Prop} {s : St} (i : Nat) (acc : Bool) (h : FInv b s)
    (hpc : (s.senders i).pc ≠ .atWaiter) : FInv b (setEndOff s i acc) :=
  iteInduction
    (fun _ => finv_upd i _ h rfl (fun e he => by injection he with he; exact Nat.le_of_eq he.symm)
      (fun _ hpc' => absurd hpc' hpc))
    fun _ => h

def Ev.isDirect : Ev → Bool
  | .pause => true
  | .resume => true
  | _ => false

section
variable (c : Cfg) (hk : c.kind = .stream) (hfix : c.wlp = true ∨ c.reassert = true)
include hk hfix

theorem finv_runOp {s : St} (i : Nat) (op : Op) (hpc : (s.senders i).pc = .created op) (h : FInv True s) :
    FInv True (runOp c s i op) := by
  have g := Good.refl c s
  -- the sender itself is untouched by the transport (it is not waiting)
  have hne : ∀ {t : St}, Good c s t → (t.senders i).pc ≠ .atWaiter := fun g hw =>
    nomatch hpc.symm.trans ((g.pc i).symm.trans hw)
  cases op with
  | drain => exact finv_drainHead c i h
  | send n =>
    simp only [runOp, hk]
    exact finv_drainHead c i (finv_setEndOff i _ (finv_tWrite n h) (hne (good_tWrite g)))
  | sendv sizes =>
    have h2 := finv_setEndOff i (tWritelines c s sizes).2 (finv_tWritelines c sizes h) (hne (good_tWritelines g))
    simp only [runOp]
    split
    · exact finv_drainHead c i (finv_tSetLimitsZero h2)
    · rename_i hre
      exact finv_drainHead c i (h2.mono fun _ => hfix.resolve_right hre)

theorem finv_runTask {s : St} (i : Nat) (h : FInv True s) : FInv True (runTask c s i) :=
  runTask_cases c s i (fun _ => h)
    (fun r hr => finv_finish i r h fun hok e => h.woken i e (hr hok).1 (hr hok).2)
    (fun op hpc => finv_runOp c hk hfix i op hpc h) (fun _ => finv_drainBody c i h)

theorem finv_turn {s : St} (h : FInv True s) : FInv True (s.ready.foldl (runHandle c) (beginTurn s)) :=
  turn_preserves (P := fun _ => FInv True) (fun _ _ i => finv_runTask c hk hfix i) (fun _ _ e => finv_fcLost c e)
    s.ready ⟨h.toAcct.same, h.off, h.woken, fun _ _ hm => nomatch hm⟩

theorem finv_step {s : St} (ev : Ev) (hnd : ev.isDirect = false) (h : FInv True s) : FInv True (step c s ev).1 := by
  cases ev with
  | start i op =>
    simp only [step]
    split
    · exact finv_upd i _ h rfl (fun _ he => nomatch he) (fun _ hpc => nomatch hpc)
    · exact h
  | pause => exact nomatch hnd
  | resume => exact nomatch hnd
  | kernel k =>
    simp only [step, hk]
    exact finv_tWriteReady c ⟨h.toAcct.same, h.toSInv.mono⟩
  | lost e => exact finv_fcLost c e h
  | fail e =>
    simp only [step, hk]
    exact finv_tForceClose e h
  | close => exact finv_tClose c h
  | cancel i =>
    -- a waiter already resumed keeps its (flushed) offset; only `mustCancel` changes
    exact cancelTask_cases (P := FInv True) s i (fun _ => h) (fun _ => finv_upd i _ h rfl (h.off i) (h.woken i))
      (fun _ => finv_upd i _ h rfl (h.off i) (fun _ _ hf => nomatch hf))
  | turn =>
    have h1 := finv_turn c hk hfix h
    exact ⟨h1.toAcct.same, h1.off, h1.woken, fun _ _ hm => nomatch hm⟩

theorem finv_run (evs : List Ev) {s : St} (hnd : ∀ e ∈ evs, e.isDirect = false) (h : FInv True s) :
    FInv True (run c s evs).1 :=
  run_preserves evs (fun _ e he => finv_step c hk hfix e (hnd e he)) h

theorem turn_ok_flushed {s : St} (h : FInv True s) {log : List (Nat × Res × Option Nat)}
    (hlog : (step c s .turn).2 = .turn log) {i e : Nat} (hm : (i, Res.ok, some e) ∈ log) :
    e ≤ (step c s .turn).1.flushed :=
  (finv_turn c hk hfix h).logged i e (Out.turn.inj hlog ▸ hm)

end

end EasyNet.C20.FC

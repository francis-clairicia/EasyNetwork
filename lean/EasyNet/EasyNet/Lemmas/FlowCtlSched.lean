/-
  C20 — no lost wake-up.
  In every reachable state every sender task that exists is either parked on a *pending* drain waiter, or has a
  step / wake-up sitting in the loop's ready queue.
-/
import EasyNet.Lemmas.FlowCtl
namespace EasyNet.C20.FC

/-- `q`: the handles that the running loop turn has still to run -/
def Sched (c : Cfg) (q : List Handle) (s : St) : Prop :=
  ∀ i, (s.senders i).pc ≠ .idle → i < c.n ∧ (Waiting s i ∨ Handle.task i ∈ q ++ s.ready)

section
variable {c : Cfg} {q q' : List Handle} {s t : St}

theorem sched_mono (hq : ∀ j, Handle.task j ∈ q ++ s.ready → Handle.task j ∈ q' ++ t.ready) (h : Sched c q s)
    (hs : t.senders = s.senders := by rfl) : Sched c q' t := fun j hj => by
  unfold Waiting
  rw [hs] at hj ⊢
  exact (h j hj).imp id (Or.imp_right (hq j))

theorem task_mem_of_ne {i j : Nat} {q : List Handle} (hji : j ≠ i) (h : Handle.task j ∈ Handle.task i :: q) :
    Handle.task j ∈ q :=
  (List.mem_cons.mp h).resolve_left (fun e => hji (Handle.task.inj e))

theorem sched_pop (i : Nat) (h : Sched c (Handle.task i :: q) s) (hi : (s.senders i).pc = .idle ∨ Waiting s i) :
    Sched c q s := fun j hj =>
  (h j hj).imp id fun hw => hw.elim Or.inl fun hm => by
    by_cases hji : j = i
    · subst hji; exact Or.inl (hi.resolve_left hj)
    · exact Or.inr (task_mem_of_ne hji hm)

theorem sched_of_good (g : Good c s t) (h : Sched c q s) : Sched c q t := by
  intro i hi
  rw [g.pc i] at hi
  have ⟨hn, h⟩ := h i hi
  refine ⟨hn, ?_⟩
  rcases h with h | h
  · exact (g.wk i hn h).imp_right (List.mem_append_right q)
  · exact Or.inr ((List.mem_append.mp h).elim (List.mem_append_left _) fun h => List.mem_append_right q (g.sub _ h))

theorem sched_upd (i : Nat) (x : Sender) (h : Sched c q s) (hs : t.senders = upd s.senders i x)
    (hx : x.pc ≠ .idle → i < c.n ∧ ((x.pc = .atWaiter ∧ x.fut = .pending) ∨ Handle.task i ∈ q' ++ t.ready))
    (hq : ∀ j, j ≠ i → Handle.task j ∈ q ++ s.ready → Handle.task j ∈ q' ++ t.ready) : Sched c q' t := by
  intro j
  unfold Waiting
  rw [hs]
  exact upd_cases s.senders i x j (fun e => e ▸ hx) (fun hji hj => (h j hj).imp id (Or.imp_right (hq j hji)))

theorem sched_finish (i : Nat) (r : Res) (h : Sched c (.task i :: q) s) : Sched c q (finish s i r) :=
  sched_upd i _ h rfl (fun hpc => absurd rfl hpc) (fun _ hji => task_mem_of_ne hji)

theorem sched_drainBody (i : Nat) (hi : i < c.n) (h : Sched c (.task i :: q) s) : Sched c q (drainBody c s i) :=
  drainBody_cases c s i (fun r _ => sched_finish i r h)
    (fun _ _ => sched_upd i _ h rfl (fun _ => ⟨hi, Or.inl ⟨rfl, rfl⟩⟩) (fun _ hji => task_mem_of_ne hji))

theorem sched_drainHead (i : Nat) (hi : i < c.n) (h : Sched c (.task i :: q) s) : Sched c q (drainHead c s i) :=
  iteInduction
    (fun _ => sched_upd i _ h rfl (fun _ => ⟨hi, Or.inr (by simp)⟩) (fun _ hji hm => by
      rw [← List.append_assoc]; exact List.mem_append_left _ (task_mem_of_ne hji hm)))
    fun _ => sched_drainBody i hi h

theorem sched_runTask (i : Nat) (h : Sched c (.task i :: q) s) : Sched c q (runTask c s i) :=
  have hi : (s.senders i).pc ≠ .idle → i < c.n := fun hne => (h i hne).1
  runTask_cases c s i (sched_pop i h) (fun r _ => sched_finish i r h)
    (fun op hpc => runOp_cases c s i op fun _ g =>
      sched_drainHead i (hi fun e => nomatch hpc.symm.trans e) (sched_of_good g h))
    (fun hpc => sched_drainBody i (hi fun e => nomatch hpc.symm.trans e) h)

theorem sched_fcLost (e : Option Nat) (h : Sched c (.connLost e :: q) s) : Sched c q (fcLost c s e) :=
  sched_mono (fun j hm => (List.mem_cons.mp hm).resolve_left (fun e => Handle.noConfusion e))
    (sched_of_good (good_fcLost (Good.refl c s)) h)

end

/-- the invariant: every existing sender is below `c.n` and is waiting on a pending waiter or scheduled -/
def QInv (c : Cfg) (s : St) : Prop := Sched c [] s

theorem qinv_init (c : Cfg) : QInv c (St.init c) := fun _ h => absurd rfl h

theorem qinv_step (c : Cfg) {s : St} (ev : Ev) (h : QInv c s) : QInv c (step c s ev).1 :=
  step_cases c s ev
    (fun i _ hi => sched_upd i _ h rfl (fun _ => ⟨hi, Or.inr (by simp)⟩)
      (fun _ _ hm => List.mem_append_left (as := s.ready) _ hm))
    (fun _ g => sched_of_good g h)
    (fun i => cancelTask_cases s i (fun _ => h)
      (fun _ => sched_upd i _ h rfl (h i) (fun _ _ hm => hm))
      -- the pending waiter is cancelled: its wake-up is scheduled
      (fun _ => sched_upd i _ h rfl (fun hpc => ⟨(h i hpc).1, Or.inr (by simp)⟩)
        (fun _ _ hm => List.mem_append_left (as := s.ready) _ hm)))
    -- the turn runs the handles that are ready now
    (turn_preserves (P := Sched c) (fun _ _ i => sched_runTask i) (fun _ _ e => sched_fcLost e) s.ready
      (s := beginTurn s) (sched_mono (fun _ => List.mem_append_left _) h))

theorem qinv_run (c : Cfg) (evs : List Ev) {s : St} (h : QInv c s) : QInv c (run c s evs).1 :=
  run_preserves evs (fun _ e _ => qinv_step c e) h

end EasyNet.C20.FC

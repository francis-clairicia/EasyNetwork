/-
  Generic (file-based / compressor) framers, copying path.  The file loader / decompressor is a parameter subject to the
  laws `Stable` (validated by the harness on every case).  Both framers refine byte-level specs (`feed_refines`:
  `_wrap_generic_incremental_deserialize ∘ __generic_incremental_deserialize` refines `spec`; `cfeed_refines`), the
  limit-free spec `specU` satisfies the `SpecLaws`, and a stream made of frames inside the safe zone decodes into one
  item per frame (`copy_run_frames`).
  `spec load limit` does NOT satisfy `SpecLaws.done_append`: a complete frame followed by enough further bytes
  is rejected (C07 table, witness in Props/C07).  What holds instead: inside the safe zone it coincides with `specU`.
-/
import EasyNet.Model.GenericFr
import EasyNet.Lemmas.ConsumerSim
namespace EasyNet.GenericFr
open EasyNet

/-- **Loader laws.**  What has been decided on some bytes is decided the same way when more bytes follow
    (`*_ext`), is decided on bytes that were available (`*_le`), and was not decidable earlier (`*_pre`: the loader does
    not need bytes beyond the ones it consumes — a packet is complete when its last byte is there). -/
structure Stable (load : Bytes → LoadRes) : Prop where
  ok_ext : ∀ b x k, load b = .ok k → load (b ++ x) = .ok k
  bad_ext : ∀ b x k, load b = .bad k → load (b ++ x) = .bad k
  ok_le : ∀ b k, load b = .ok k → k ≤ b.length
  bad_le : ∀ b k, load b = .bad k → k ≤ b.length
  ok_pre : ∀ b x k, load (b ++ x) = .ok k → k ≤ b.length → load b = .ok k
  bad_pre : ∀ b x k, load (b ++ x) = .bad k → k ≤ b.length → load b = .bad k

/-- every packet / expected error consumes at least one byte -/
def Progress (load : Bytes → LoadRes) : Prop :=
  (∀ b k, load b = .ok k → 0 < k) ∧ (∀ b k, load b = .bad k → 0 < k)

/-- byte-level spec without size check (compressor framer; file-based framer inside the limit) -/
def specU (load : Bytes → LoadRes) (b : Bytes) : SRes :=
  match load b with
  | .eof => .need
  | .ok k => .done (okTag :: b.take k) (b.drop k)
  | .bad k => .done (badTag :: b.take k) (b.drop k)

/-- byte-level spec of the file-based framer: the size check is on everything accumulated -/
def spec (load : Bytes → LoadRes) (limit : Nat) (b : Bytes) : SRes :=
  if b.length > limit then .fail [] else specU load b

/-! ### a loader's verdict

A packet and an expected error are treated alike by the framers up to the tag byte, so the laws and the spec are
used through `cut`: the tag of the delivered item and the number of bytes consumed. -/

def _root_.EasyNet.LoadRes.cut : LoadRes → Option (UInt8 × Nat)
  | .eof => none
  | .ok k => some (okTag, k)
  | .bad k => some (badTag, k)

section
variable {load : Bytes → LoadRes} {b d r : Bytes} {t : UInt8} {k : Nat}

theorem specU_eq (load : Bytes → LoadRes) (b : Bytes) :
    specU load b = match (load b).cut with
      | none => .need
      | some (t, k) => .done (t :: b.take k) (b.drop k) := by
  unfold specU; cases load b <;> rfl

theorem specU_of_eof (h : load b = .eof) : specU load b = .need := by rw [specU_eq, h]; rfl

theorem cut_of_specU_done (h : specU load b = .done d r) :
    ∃ t k, (load b).cut = some (t, k) ∧ d = t :: b.take k ∧ r = b.drop k := by
  rw [specU_eq] at h
  cases hc : (load b).cut with
  | none => rw [hc] at h; cases h
  | some tk => rw [hc] at h; cases h; exact ⟨_, _, rfl, rfl, rfl⟩

theorem specU_ne_fail : specU load b ≠ .fail r := by
  unfold specU; cases load b <;> nofun

theorem cut_eq_some {x : LoadRes} (h : x.cut = some (t, k)) : x = .ok k ∨ x = .bad k := by
  cases x with
  | eof => cases h
  | ok k' => cases h; exact .inl rfl
  | bad k' => cases h; exact .inr rfl

theorem Stable.cut_ext (S : Stable load) (x : Bytes) (h : (load b).cut = some (t, k)) : load (b ++ x) = load b :=
  (cut_eq_some h).elim (fun hl => (S.ok_ext b x k hl).trans hl.symm) (fun hl => (S.bad_ext b x k hl).trans hl.symm)

theorem Stable.cut_le (S : Stable load) (h : (load b).cut = some (t, k)) : k ≤ b.length :=
  (cut_eq_some h).elim (S.ok_le b k) (S.bad_le b k)

theorem Stable.cut_pre (S : Stable load) {x : Bytes} (h : (load (b ++ x)).cut = some (t, k)) (hk : k ≤ b.length) :
    load b = load (b ++ x) :=
  (cut_eq_some h).elim (fun hl => (S.ok_pre b x k hl hk).trans hl.symm)
    (fun hl => (S.bad_pre b x k hl hk).trans hl.symm)

theorem Progress.cut_pos (P : Progress load) (h : (load b).cut = some (t, k)) : 0 < k :=
  (cut_eq_some h).elim (P.1 b k) (P.2 b k)

/-- the laws may be established in verdict form, once for packets and expected errors -/
theorem Stable.of_cut
    (ext : ∀ b x t k, (load b).cut = some (t, k) → load (b ++ x) = load b)
    (le : ∀ b t k, (load b).cut = some (t, k) → k ≤ b.length)
    (pre : ∀ b x t k, (load (b ++ x)).cut = some (t, k) → k ≤ b.length → load b = load (b ++ x)) : Stable load where
  ok_ext b x k h := (ext b x okTag k (congrArg LoadRes.cut h)).trans h
  bad_ext b x k h := (ext b x badTag k (congrArg LoadRes.cut h)).trans h
  ok_le b k h := le b okTag k (congrArg LoadRes.cut h)
  bad_le b k h := le b badTag k (congrArg LoadRes.cut h)
  ok_pre b x k h hk := (pre b x okTag k (congrArg LoadRes.cut h) hk).trans h
  bad_pre b x k h hk := (pre b x badTag k (congrArg LoadRes.cut h) hk).trans h

end

theorem drop_isEmpty_iff {d : Bytes} {k : Nat} (hk : k ≤ d.length) :
    (d.drop k).isEmpty = true ↔ k = d.length := by
  rw [List.isEmpty_iff, List.drop_eq_nil_iff]
  exact ⟨Nat.le_antisymm hk, fun h => h ▸ Nat.le_refl _⟩

theorem specU_rest_le_chunk (load : Bytes → LoadRes) (S : Stable load) (b c d r : Bytes)
    (hb : b = [] ∨ specU load b = .need) (h : specU load (b ++ c) = .done d r) : r.length ≤ c.length := by
  obtain ⟨t, k, hc, -, rfl⟩ := cut_of_specU_done h
  have hk : b.length ≤ k := by
    rcases hb with rfl | hn
    · exact Nat.zero_le _
    · refine Nat.le_of_not_le fun hk => ?_
      rw [specU_eq, S.cut_pre hc hk, hc] at hn
      cases hn
  rw [List.length_drop, List.length_append, Nat.add_comm]
  exact Nat.sub_le_of_le_add (Nat.add_le_add_left hk _)

theorem specU_laws (load : Bytes → LoadRes) (S : Stable load) (P : Progress load) : SpecLaws (specU load) where
  progress_done b d r h := by
    obtain ⟨t, k, hc, -, rfl⟩ := cut_of_specU_done h
    rw [List.length_drop]
    exact Nat.sub_lt (Nat.lt_of_lt_of_le (P.cut_pos hc) (S.cut_le hc)) (P.cut_pos hc)
  progress_fail b r h := absurd h specU_ne_fail
  done_append b x d r h := by
    obtain ⟨t, k, hc, rfl, rfl⟩ := cut_of_specU_done h
    have hk := S.cut_le hc
    rw [specU_eq, S.cut_ext x hc, hc]
    simp only [List.take_append_of_le_length hk, List.drop_append_of_le_length hk]
  need_prefix b x h := by
    cases hc : (load b).cut with
    | none => rw [specU_eq, hc]
    | some tk => rw [specU_eq, S.cut_ext (t := tk.1) (k := tk.2) x hc, hc] at h; cases h
  done_prefix b x d r _ _ r' hb := absurd hb specU_ne_fail


theorem limitRemainder_all (b : Bytes) : limitRemainder b b.length [] = [] := by
  simp [limitRemainder]

def Inv (s : State) (b : Bytes) : Prop := s.buf = b ∧ (s.started = false → b = [])

theorem appended_inv (s : State) (b c : Bytes) (h : Inv s b) : appended s c = b ++ c := by
  unfold appended
  cases hst : s.started with
  | true => rw [if_pos rfl, h.1]
  | false => rw [h.2 hst]; rfl

theorem attempt_refines (load : Bytes → LoadRes) (limit : Nat) (b : Bytes) :
    (attempt load limit b).toRes.erase = spec load limit b ∧
    ∀ s', (attempt load limit b).toRes = .need s' → Inv s' b := by
  unfold attempt checkLimit spec
  by_cases hl : b.length > limit
  · rw [if_pos hl, if_pos hl, limitRemainder_all]
    exact ⟨rfl, nofun⟩
  · rw [if_neg hl, if_neg hl]
    unfold specU
    cases load b with
    | eof => exact ⟨rfl, fun s' hs' => by cases hs'; exact ⟨rfl, nofun⟩⟩
    | ok k => exact ⟨rfl, nofun⟩
    | bad k => exact ⟨rfl, nofun⟩

theorem feed_refines (load : Bytes → LoadRes) (limit : Nat) :
    Refines init (feed load limit) (spec load limit) Inv where
  init := ⟨rfl, fun _ => rfl⟩
  step s b c h := by
    unfold feed gfeed
    rw [appended_inv s b c h]
    exact attempt_refines load limit _

def CInv (s : CState) (b : Bytes) : Prop := s.fed = b

theorem cfeed_refines (dec : Bytes → DecRes) :
    Refines cinit (cfeed dec) (specU (loadOf dec)) CInv where
  init := rfl
  step s b c h := by
    cases h
    unfold cfeed cgfeed specU loadOf
    cases dec (s.fed ++ c) with
    | more => exact ⟨rfl, fun s' hs' => by cases hs'; rfl⟩
    | corrupt => exact ⟨by simp only [GRes.toRes, Res.erase, List.take_length, List.drop_length], nofun⟩
    | fin k ok => cases ok <;> exact ⟨rfl, nofun⟩


theorem spec_eq_specU (load : Bytes → LoadRes) (limit : Nat) (b : Bytes) (h : b.length ≤ limit) :
    spec load limit b = specU load b :=
  if_neg (Nat.not_lt.mpr h)

theorem spec_of_gt (load : Bytes → LoadRes) (limit : Nat) (b : Bytes) (h : b.length > limit) :
    spec load limit b = .fail [] :=
  if_pos h

theorem spec_inside {load : Bytes → LoadRes} {limit : Nat} {b : Bytes} {x : SRes} (h : spec load limit b = x)
    (hx : ∀ r, x ≠ .fail r) : b.length ≤ limit ∧ specU load b = x := by
  unfold spec at h
  split at h
  · exact absurd h.symm (hx _)
  · exact ⟨Nat.le_of_not_gt ‹_›, h⟩

theorem spec_fail {load : Bytes → LoadRes} {limit : Nat} {b r : Bytes} (h : spec load limit b = .fail r) :
    limit < b.length ∧ r = [] := by
  unfold spec at h
  split at h
  · cases h; exact ⟨‹_›, rfl⟩
  · exact absurd h specU_ne_fail

theorem spec_prog (load : Bytes → LoadRes) (S : Stable load) (P : Progress load) (limit : Nat) :
    ProgLaws (spec load limit) where
  progress_done b d r h := (specU_laws load S P).progress_done b d r (spec_inside h nofun).2
  progress_fail b r h := by
    rw [(spec_fail h).2]
    exact Nat.lt_of_le_of_lt (Nat.zero_le _) (spec_fail h).1

/-- data within the limit is decoded as if there were no size check: remainders only get shorter -/
theorem decodeW_spec_eq (load : Bytes → LoadRes) (S : Stable load) (P : Progress load) (limit : Nat) (b : Bytes)
    (hb : b.length ≤ limit) : decodeW (spec load limit) b = decodeW (specU load) b := by
  have L := (specU_laws load S P).prog
  induction b using L.decodeW_induction with
  | need b hs => rw [decodeW_of_need hs, decodeW_of_need ((spec_eq_specU load limit b hb).trans hs)]
  | out b it r hs ih =>
    rw [L.decodeW_of_out hs, (spec_prog load S P limit).decodeW_of_out ((spec_eq_specU load limit b hb).symm ▸ hs),
      ih (Nat.le_trans (Nat.le_of_lt (L.out_lt hs)) hb)]

/-- no loader law is needed for the bound: a remainder is a `drop` of what was looked at -/
theorem spec_rest_le {load : Bytes → LoadRes} {limit : Nat} {b d r : Bytes} (h : spec load limit b = .done d r) :
    r.length ≤ limit := by
  obtain ⟨hb, hs⟩ := spec_inside h nofun
  obtain ⟨t, k, -, -, rfl⟩ := cut_of_specU_done hs
  rw [List.length_drop]
  exact Nat.le_trans (Nat.sub_le _ _) hb

theorem refDrain_held_le (load : Bytes → LoadRes) (limit : Nat) (fuel : Nat) (b : Bytes)
    (hb : b.length ≤ limit) : (refDrain (spec load limit) fuel b).1.length ≤ limit := by
  induction fuel generalizing b with
  | zero => exact hb
  | succ fuel ih =>
    unfold refDrain
    split
    · exact Nat.zero_le _
    · cases hs : spec load limit b with
      | need => exact hb
      | done d r => exact ih r (spec_rest_le hs)
      | fail r => exact ih r ((spec_fail hs).2 ▸ Nat.zero_le _)

theorem refRecv_held_le (load : Bytes → LoadRes) (limit : Nat) (h c : Bytes) :
    (refRecv (spec load limit) h c).1.length ≤ limit := by
  unfold refRecv
  split
  · exact Nat.zero_le _
  · cases hs : spec load limit (h ++ c) with
    | need => exact (spec_inside hs nofun).1
    | done d r => exact refDrain_held_le load limit _ r (spec_rest_le hs)
    | fail r => exact refDrain_held_le load limit _ r ((spec_fail hs).2 ▸ Nat.zero_le _)

theorem refRun_held_le (load : Bytes → LoadRes) (limit : Nat) (cs : List Bytes) (h : Bytes)
    (hh : h.length ≤ limit) : (refRun (spec load limit) h cs).1.length ≤ limit := by
  induction cs generalizing h with
  | nil => exact hh
  | cons c cs ih => exact ih _ (refRecv_held_le load limit h c)


/-- `f` is a frame of the loader: decided (packet or expected error) exactly when all of it is there -/
structure IsFrame (load : Bytes → LoadRes) (f : Bytes) : Prop where
  pos : 0 < f.length
  whole : load f = .ok f.length ∨ load f = .bad f.length
  prefix_eof : ∀ n, n < f.length → load (f.take n) = .eof

/-- decidable form of `IsFrame` (for concrete instances) -/
def IsFrameD (load : Bytes → LoadRes) (f : Bytes) : Prop :=
  0 < f.length ∧ (load f = .ok f.length ∨ load f = .bad f.length) ∧
  (List.range f.length).all (fun n => decide (load (f.take n) = .eof)) = true

theorem isFrame_of_D (load : Bytes → LoadRes) (f : Bytes) (h : IsFrameD load f) : IsFrame load f := by
  obtain ⟨h1, h2, h3⟩ := h
  refine ⟨h1, h2, ?_⟩
  intro n hn
  have := List.all_eq_true.mp h3 n (List.mem_range.mpr hn)
  simpa using this

/-- the item delivered for a frame: a packet (`okTag`) or exactly one parse error (`badTag`) -/
def frameItem (load : Bytes → LoadRes) (f : Bytes) : Item :=
  .frame ((if load f = .ok f.length then okTag else badTag) :: f)

theorem map_frameItem_ok {load : Bytes → LoadRes} {fs : List Bytes} (hok : ∀ f ∈ fs, load f = .ok f.length) :
    fs.map (frameItem load) = fs.map (fun f => Item.frame (okTag :: f)) :=
  List.map_congr_left fun f hf => by rw [frameItem, if_pos (hok f hf)]

theorem noLimit_frames (load : Bytes → LoadRes) (fs : List Bytes) : NoLimit (fs.map (frameItem load)) := by
  intro it hit
  obtain ⟨f, -, rfl⟩ := List.mem_map.mp hit
  nofun

theorem IsFrame.cut {load : Bytes → LoadRes} {f : Bytes} (hf : IsFrame load f) :
    (load f).cut = some (if load f = .ok f.length then okTag else badTag, f.length) := by
  rcases hf.whole with h | h
  · rw [if_pos h, h]; rfl
  · rw [if_neg (by rw [h]; nofun), h]; rfl

theorem specU_frame (load : Bytes → LoadRes) (S : Stable load) (f rest : Bytes) (hf : IsFrame load f) :
    specU load (f ++ rest) = .done ((if load f = .ok f.length then okTag else badTag) :: f) rest := by
  rw [specU_eq, S.cut_ext rest hf.cut, hf.cut]
  simp only [List.take_left, List.drop_left]

/-- what is retained in front of the frames still to come: a proper prefix of the first of them -/
def Held (h : Bytes) : List Bytes → Prop
  | [] => h = []
  | f :: _ => ∃ t, f = h ++ t ∧ t ≠ []

theorem held_nil (fs : List Bytes) (hpos : ∀ f ∈ fs, f ≠ []) : Held [] fs := by
  cases fs with
  | nil => rfl
  | cons f fs => exact ⟨f, rfl, hpos f (List.mem_cons_self ..)⟩

theorem IsFrame.ne_nil {load : Bytes → LoadRes} {f : Bytes} (hf : IsFrame load f) : f ≠ [] :=
  List.ne_nil_of_length_pos hf.pos

theorem Held.length_lt {h f : Bytes} {fs : List Bytes} (hh : Held h (f :: fs)) : h.length < f.length := by
  obtain ⟨t, rfl, ht⟩ := hh
  rw [List.length_append]
  exact Nat.lt_add_of_pos_right (List.length_pos_iff.mpr ht)

theorem Held.need {load : Bytes → LoadRes} {h : Bytes} {fs : List Bytes} (hh : Held h fs)
    (hfs : ∀ f ∈ fs, IsFrame load f) : h = [] ∨ specU load h = .need := by
  cases fs with
  | nil => exact .inl hh
  | cons f fs =>
    have := (hfs f (List.mem_cons_self ..)).prefix_eof h.length hh.length_lt
    obtain ⟨t, rfl, -⟩ := hh
    rw [List.take_left] at this
    exact .inr (specU_of_eof this)

/-- cutting a stream of non-empty pieces in two: the pieces wholly before the cut, then a proper prefix of the next -/
theorem flatten_prefix_split (fs : List Bytes) (hpos : ∀ f ∈ fs, f ≠ []) (p q : Bytes) (hpq : p ++ q = fs.flatten) :
    ∃ fs1 fs2 h, fs = fs1 ++ fs2 ∧ p = fs1.flatten ++ h ∧ h ++ q = fs2.flatten ∧ Held h fs2 := by
  rcases List.append_eq_flatten_iff.mp hpq with ⟨fs1, fs2, rfl, rfl, rfl⟩ | ⟨fs1, h, x, t, fs2, rfl, rfl, rfl⟩
  · exact ⟨fs1, fs2, [], rfl, (List.append_nil _).symm, rfl,
      held_nil fs2 fun f hf => hpos f (List.mem_append_right _ hf)⟩
  · exact ⟨fs1, (h ++ x :: t) :: fs2, h, rfl, rfl, (List.append_assoc ..).symm, x :: t, rfl, nofun⟩

theorem decodeW_frames (load : Bytes → LoadRes) (S : Stable load) (P : Progress load) (fs : List Bytes)
    (hfs : ∀ f ∈ fs, IsFrame load f) (h : Bytes) (hh : h = [] ∨ specU load h = .need) :
    decodeW (specU load) (fs.flatten ++ h) = (h, fs.map (frameItem load)) := by
  have := (specU_laws load S P).prog.decodeW_frames id _ fs (fun f hf rest => specU_frame load S f rest (hfs f hf)) h hh
  rwa [List.map_id] at this

theorem decode_frames (load : Bytes → LoadRes) (S : Stable load) (P : Progress load)
    (fs : List Bytes) (hfs : ∀ f ∈ fs, IsFrame load f) :
    decodeW (specU load) fs.flatten = ([], fs.map (frameItem load)) := by
  have := decodeW_frames load S P fs hfs [] (.inl rfl)
  rwa [List.append_nil] at this

/-- `|f| + m ≤ limit + 1` is exact: what is held in front of a read is at most `|f| - 1` bytes -/
theorem refRun_frames (load : Bytes → LoadRes) (S : Stable load) (P : Progress load) (limit m : Nat)
    (cs : List Bytes) (hcs : ∀ c ∈ cs, c.length ≤ m) (fs : List Bytes) (hfs : ∀ f ∈ fs, IsFrame load f)
    (hsafe : ∀ f ∈ fs, f.length + m ≤ limit + 1) (h : Bytes) (hheld : Held h fs)
    (hcut : h ++ cs.flatten = fs.flatten) :
    refRun (spec load limit) h cs = ([], fs.map (frameItem load)) := by
  induction cs generalizing h fs with
  | nil =>
    rw [List.flatten_nil, List.append_nil] at hcut
    cases fs with
    | nil => rw [hcut]; rfl
    | cons f fs =>
      -- `h` is a proper prefix of `f` and also everything that is left
      obtain ⟨t, rfl, ht⟩ := hheld
      rw [List.flatten_cons, List.append_assoc] at hcut
      exact absurd (List.append_eq_nil_iff.mp (List.self_eq_append_right.mp hcut)).1 ht
  | cons c cs ih =>
    rw [List.flatten_cons, ← List.append_assoc] at hcut
    -- the accumulated bytes stay within the limit
    have hlim : (h ++ c).length ≤ limit := by
      cases fs with
      | nil => rw [(List.append_eq_nil_iff.mp hcut).1]; exact Nat.zero_le _
      | cons f fs =>
        rw [List.length_append]
        exact Nat.le_of_lt_succ (Nat.lt_of_lt_of_le
          (Nat.add_lt_add_of_lt_of_le hheld.length_lt (hcs c (List.mem_cons_self ..))) (hsafe f (List.mem_cons_self ..)))
    obtain ⟨fs1, fs2, h', rfl, hp, hcut', hheld'⟩ :=
      flatten_prefix_split fs (fun f hf => (hfs f hf).ne_nil) (h ++ c) cs.flatten hcut
    obtain ⟨hfs1, hfs2⟩ := List.forall_mem_append.mp hfs
    have hrecv : refRecv (spec load limit) h c = (h', fs1.map (frameItem load)) := by
      rw [(spec_prog load S P limit).refRecv_eq_decodeW, decodeW_spec_eq load S P limit _ hlim, hp]
      exact decodeW_frames load S P fs1 hfs1 h' (hheld'.need hfs2)
    rw [refRun, hrecv, ih (List.forall_mem_cons.mp hcs).2 fs2 hfs2 (List.forall_mem_append.mp hsafe).2 h' hheld' hcut',
      List.map_append]

theorem copy_run_frames (load : Bytes → LoadRes) (S : Stable load) (P : Progress load) (limit m : Nat)
    (fs : List Bytes) (hfs : ∀ f ∈ fs, IsFrame load f) (hsafe : ∀ f ∈ fs, f.length + m ≤ limit + 1)
    (chunks : List Bytes) (hm : ∀ c ∈ chunks, c.length ≤ m) (hcut : chunks.flatten = fs.flatten) :
    (Consumer.run init (feed load limit) Consumer.new chunks).2 = fs.map (frameItem load) ∧
    Consumer.Rel (spec load limit) Inv (Consumer.run init (feed load limit) Consumer.new chunks).1 [] := by
  have hsim := Consumer.run_ref (feed_refines load limit) chunks Consumer.new [] .new
  rwa [refRun_frames load S P limit m chunks hm fs hfs hsafe [] (held_nil fs fun f hf => (hfs f hf).ne_nil) hcut]
    at hsim

theorem ccopy_run_frames (dec : Bytes → DecRes) (S : Stable (loadOf dec)) (P : Progress (loadOf dec))
    (fs : List Bytes) (hfs : ∀ f ∈ fs, IsFrame (loadOf dec) f) (chunks : List Bytes)
    (hcut : chunks.flatten = fs.flatten) :
    (Consumer.run cinit (cfeed dec) Consumer.new chunks).2 = fs.map (frameItem (loadOf dec)) := by
  have hdec := decode_frames (loadOf dec) S P fs hfs
  rw [← hcut] at hdec
  rw [(Consumer.run_eq_decodeW (cfeed_refines dec) (specU_laws (loadOf dec) S P) chunks
    (AllOk_of_NoLimit _ (by rw [hdec]; exact noLimit_frames _ fs))).1, hdec]

end EasyNet.GenericFr

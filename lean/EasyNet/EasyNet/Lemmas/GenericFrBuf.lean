/-
  Buffered path of the generic framers.

  `_wrap_generic_buffered_incremental_deserialize` sends `buffer[:nbytes]` to the very same generator as the copy path
  and always yields write position 0; the buffer-filling consumer re-injects a remainder at position 0 and feeds it
  back together with the next bytes.  Hence, for every framer of that shape (`bwrap feed`), the buffer-filling
  consumer is step-by-step equivalent to the copying consumer over `feed` on the same reads, PROVIDED every remainder
  fits the buffer — which holds when no remainder is longer than the chunk just sent (`Fits`; for a framer that refines
  a spec it is a property of the spec, `fits_of_refines`, and for the generic framers that property is the loader law
  `ok_pre`/`bad_pre`: a packet is complete when its last byte is there).
-/
import EasyNet.Lemmas.GenericFr
import EasyNet.Lemmas.BufConsumerSim
namespace EasyNet.GenericFr
open EasyNet

def toB {σ} : Res σ → BRes σ
  | .need s => .need s 0
  | .done d r => .done d r
  | .fail r => .fail r

/-- a buffered framer obtained from a copy framer the way `_wrap_generic_buffered_incremental_deserialize` does -/
def bwrap {σ} (feed : σ → Bytes → Res σ) (s : σ) (buffer : Bytes) (nb : Nat) : BRes σ :=
  toB (feed s (buffer.take nb))

theorem toBRes_eq {σ} (g : GRes σ) : g.toBRes = toB g.toRes := by cases g <;> rfl

theorem bfeed_eq (load : Bytes → LoadRes) (limit : Nat) : bfeed load limit = bwrap (feed load limit) := by
  funext s buffer nb
  simp only [bfeed, bwrap, feed, toBRes_eq]

theorem cbfeed_eq (dec : Bytes → DecRes) : cbfeed dec = bwrap (cfeed dec) := by
  funext s buffer nb
  simp only [cbfeed, bwrap, cfeed, toBRes_eq]

/-- remainders never exceed the chunk just sent, along every run (`Good` = invariant of the suspended states) -/
structure Fits {σ} (init : σ) (feed : σ → Bytes → Res σ) (Good : σ → Prop) : Prop where
  init : Good init
  need : ∀ s c s', Good s → feed s c = .need s' → Good s'
  done_le : ∀ s c d r, Good s → feed s c = .done d r → r.length ≤ c.length
  fail_le : ∀ s c r, Good s → feed s c = .fail r → r.length ≤ c.length

/-- Buffered consumer `bc` and copying consumer `c` are in the same situation: `c` holds the bytes pending in `bc`'s
    buffer and would resume the same framer state.  `Consumer.next` starts from `init` when it has no framer, so only
    `fr.getD init` matters: after a re-injected remainder `bc` already has a fresh framer where `c` has none. -/
structure Sim {σ} (cap : Nat) (init : σ) (Good : σ → Prop) (bc : BufConsumer σ) (c : Consumer σ) : Prop where
  crashed : bc.crashed = false
  len : bc.buffer = [] ∨ bc.buffer.length = cap
  written_le : bc.written ≤ bc.buffer.length
  buffer : c.buffer = bc.buffer.take bc.written
  fr : c.fr.getD init = bc.fr.getD init
  good : Good (bc.fr.getD init)
  idle : bc.fr = none → bc.written = 0
  active : ∀ s, bc.fr = some s → bc.buffer.length = cap ∧ bc.start = 0

abbrev SimOut {σ α} (cap : Nat) (init : σ) (Good : σ → Prop) (x : BufConsumer σ × α) (y : Consumer σ × α) : Prop :=
  x.2 = y.2 ∧ Sim cap init Good x.1 y.1

section
variable {σ : Type} {init : σ} {feed : σ → Bytes → Res σ} {Good : σ → Prop} {cap : Nat}

theorem Sim.length_buffer {bc : BufConsumer σ} {c : Consumer σ} (h : Sim cap init Good bc c) :
    c.buffer.length = bc.written := by
  rw [h.buffer, List.length_take, Nat.min_eq_left h.written_le]

theorem sim_new (cap : Nat) (init : σ) (Good : σ → Prop) (hg : Good init) :
    Sim cap init Good (BufConsumer.new : BufConsumer σ) (Consumer.new : Consumer σ) :=
  ⟨rfl, .inl rfl, Nat.le_refl _, rfl, rfl, hg, fun _ => rfl, fun _ h => nomatch h⟩

theorem saveRemainder_sim (hcap : 0 < cap) (hinit : Good init)
    (bc : BufConsumer σ) (r : Bytes) (hlen : bc.buffer.length = cap) (hcr : bc.crashed = false) (hr : r.length ≤ cap) :
    Sim cap init Good (BufConsumer.saveRemainder init 0 cap { bc with written := 0, fr := none } r) ⟨r, none⟩ := by
  by_cases hre : r = []
  · rw [hre]
    exact ⟨hcr, .inr hlen, Nat.zero_le _, rfl, rfl, hinit, fun _ => rfl, fun _ h => nomatch h⟩
  · rw [BufConsumer.saveRemainder_eq hcap bc hlen hre]
    have hfit : 0 + r.length ≤ bc.buffer.length := by rw [Nat.zero_add, hlen]; exact hr
    have hwl : (writeAt bc.buffer 0 r).length = cap := (writeAt_length _ _ _ hfit).trans hlen
    refine ⟨hcr, .inr hwl, hwl ▸ hr, ?_, rfl, hinit, (fun h => nomatch h), fun _ _ => ⟨hwl, rfl⟩⟩
    have := writeAt_take_end bc.buffer 0 r hfit
    simpa using this.symm

/-- One `next` on both consumers once the transport has written the `d` just received behind the pending bytes
    (`d = []`: `next(None)`), the buffered consumer having a framer. -/
theorem next_sim (hcap : 0 < cap) (F : Fits init feed Good) {bc : BufConsumer σ} {c : Consumer σ}
    (h : Sim cap init Good bc c) {s : σ} (hfr : bc.fr = some s) (d : Bytes) (hle : d.length + bc.written ≤ cap) :
    SimOut cap init Good
      (BufConsumer.next init 0 cap (bwrap feed)
        { bc with buffer := writeAt bc.buffer (bc.start + bc.written) d } d.length)
      (Consumer.next init feed c d) := by
  obtain ⟨hlen, hst⟩ := h.active s hfr
  have hc : c.fr.getD init = s := h.fr.trans (congrArg (·.getD init) hfr)
  have hg : Good s := by have := h.good; rwa [hfr] at this
  have hpos : bc.written + d.length ≤ bc.buffer.length := by rw [hlen, Nat.add_comm]; exact hle
  have hl : (c.buffer ++ d).length = d.length + bc.written := by rw [List.length_append, h.length_buffer, Nat.add_comm]
  have hwlen : (writeAt bc.buffer (bc.start + bc.written) d).length = cap := by
    rw [hst, Nat.zero_add]; exact (writeAt_length _ _ _ hpos).trans hlen
  have hbuf : (writeAt bc.buffer (bc.start + bc.written) d).take (d.length + bc.written) = c.buffer ++ d := by
    rw [hst, Nat.zero_add, Nat.add_comm, h.buffer]; exact writeAt_take_end _ _ _ hpos
  generalize writeAt bc.buffer (bc.start + bc.written) d = w at hwlen hbuf ⊢
  rw [Consumer.next_eq, BufConsumer.next_eq (c := { bc with buffer := w }) hfr]
  by_cases h0 : d.length + bc.written = 0
  · obtain ⟨hb, hd⟩ := List.append_eq_nil_iff.mp (List.eq_nil_of_length_eq_zero (hl.trans h0))
    rw [if_pos h0, hb, hd]
    exact ⟨rfl, h.crashed, .inr hwlen, Nat.zero_le _, hb, h.fr, h.good, fun _ => rfl, fun _ _ => ⟨hwlen, hst⟩⟩
  · have hne : ¬(c.buffer ++ d).isEmpty = true := fun h => h0 (by rw [← hl, List.isEmpty_iff.mp h]; rfl)
    rw [if_neg h0, if_neg hne, hc, bwrap, hbuf]
    have hchunk : (c.buffer ++ d).length ≤ cap := hl ▸ hle
    cases hf : feed s (c.buffer ++ d) with
    | need s' =>
      exact ⟨rfl, h.crashed, .inr hwlen, Nat.zero_le _, rfl, rfl, F.need _ _ _ hg hf, (fun h => nomatch h),
        fun _ _ => ⟨hwlen, rfl⟩⟩
    | done data r =>
      exact ⟨rfl, saveRemainder_sim hcap F.init { bc with buffer := w } r hwlen h.crashed
        (Nat.le_trans (F.done_le _ _ _ _ hg hf) hchunk)⟩
    | fail r =>
      exact ⟨rfl, saveRemainder_sim hcap F.init { bc with buffer := w } r hwlen h.crashed
        (Nat.le_trans (F.fail_le _ _ _ hg hf) hchunk)⟩

theorem drain_sim (hcap : 0 < cap) (F : Fits init feed Good) (fuel : Nat)
    (bc : BufConsumer σ) (c : Consumer σ) (h : Sim cap init Good bc c) :
    SimOut cap init Good (BufConsumer.drain init 0 cap (bwrap feed) fuel bc) (Consumer.drain init feed fuel c) := by
  induction fuel generalizing bc c with
  | zero => exact ⟨rfl, h⟩
  | succ fuel ih =>
    have hn : SimOut cap init Good (BufConsumer.next init 0 cap (bwrap feed) bc 0) (Consumer.next init feed c []) := by
      cases hfr : bc.fr with
      | none =>
        have hb : c.buffer = [] := by rw [h.buffer, h.idle hfr]; rfl
        rw [Consumer.next_eq, hb, BufConsumer.next, hfr]
        exact ⟨rfl, h⟩
      | some s =>
        have := next_sim hcap F h hfr [] (by rw [← (h.active s hfr).1]; exact (Nat.zero_add _).symm ▸ h.written_le)
        rwa [show writeAt bc.buffer (bc.start + bc.written) [] = bc.buffer by simp [writeAt]] at this
    unfold BufConsumer.drain Consumer.drain
    revert hn
    cases BufConsumer.next init 0 cap (bwrap feed) bc 0 with
    | mk bc' it =>
      cases Consumer.next init feed c [] with
      | mk c' it' =>
        rintro ⟨rfl, hsim⟩
        cases it with
        | none => exact ⟨rfl, hsim⟩
        | some i => exact ⟨congrArg (i :: ·) (ih bc' c' hsim).1, (ih bc' c' hsim).2⟩

/-- `get_write_buffer()` changes nothing the copying consumer could see, and leaves a framer in place -/
theorem Sim.prepare (hcap : 0 < cap) {bc : BufConsumer σ} {c : Consumer σ} (h : Sim cap init Good bc c) :
    Sim cap init Good (BufConsumer.prepare init 0 cap bc) c ∧
    (BufConsumer.prepare init 0 cap bc).fr = some (bc.fr.getD init) := by
  cases hfr : bc.fr with
  | some s =>
    rw [BufConsumer.prepare_of_fr hfr
      (List.isEmpty_eq_false_iff.mpr (List.ne_nil_of_length_pos ((h.active s hfr).1 ▸ hcap)))]
    exact ⟨h, hfr⟩
  | none =>
    have hw := h.idle hfr
    have hlen := BufConsumer.alloc_length h.len
    rw [BufConsumer.prepare, hfr]
    exact ⟨⟨h.crashed, .inr hlen, by rw [hw]; exact Nat.zero_le _, by rw [h.buffer, hw]; rfl,
      h.fr.trans (congrArg (·.getD init) hfr), by have := h.good; rwa [hfr] at this, (fun h => nomatch h),
      fun _ _ => ⟨hlen, rfl⟩⟩, rfl⟩

theorem fill_sim (hcap : 0 < cap) (F : Fits init feed Good)
    (bc : BufConsumer σ) (c : Consumer σ) (h : Sim cap init Good bc c) (d : Bytes) (hd : d ≠ [])
    (hfit : d.length ≤ (BufConsumer.prepare init 0 cap bc).room) :
    SimOut cap init Good (BufConsumer.fill init 0 cap (bwrap feed) bc d) (Consumer.recvChunk init feed c d) ∧
    d.length ≤ cap := by
  obtain ⟨hp, pfr⟩ := h.prepare hcap
  unfold BufConsumer.fill Consumer.recvChunk
  generalize BufConsumer.prepare init 0 cap bc = p at *
  obtain ⟨plen, pst⟩ := hp.active _ pfr
  have hroom : ¬ p.room = 0 := fun e =>
    absurd (e ▸ hfit) (Nat.not_le.mpr (List.length_pos_iff.mpr hd))
  rw [BufConsumer.room, pst, plen, Nat.zero_add] at hfit
  have hle : d.length + p.written ≤ cap := Nat.add_le_of_le_sub (plen ▸ hp.written_le) hfit
  have hn := next_sim hcap F hp pfr d hle
  refine ⟨?_, Nat.le_trans (Nat.le_add_right _ _) hle⟩
  simp only [hroom, if_false]
  revert hn
  generalize BufConsumer.next init 0 cap (bwrap feed) _ d.length = x
  generalize Consumer.next init feed c d = y
  obtain ⟨bc', it⟩ := x
  obtain ⟨c', it'⟩ := y
  rintro ⟨rfl, hsim⟩
  cases it with
  | none => exact ⟨rfl, hsim⟩
  | some i =>
    have hl : c'.buffer.length = bc'.written := hsim.length_buffer
    have := drain_sim hcap F (bc'.written + 1) bc' c' hsim
    simp only [hl]
    exact ⟨congrArg (i :: ·) this.1, this.2⟩

theorem runFills_sim (hcap : 0 < cap) (F : Fits init feed Good)
    (ds : List Bytes) (bc : BufConsumer σ) (c : Consumer σ) (h : Sim cap init Good bc c)
    (r : BufConsumer σ × List Item) (hrun : BufConsumer.runFills init 0 cap (bwrap feed) bc ds = some r) :
    SimOut cap init Good r (Consumer.run init feed c ds) ∧ ∀ d ∈ ds, d.length ≤ cap := by
  induction ds generalizing bc c r with
  | nil =>
    cases hrun
    exact ⟨⟨rfl, h⟩, nofun⟩
  | cons d ds ih =>
    obtain ⟨hd, hfit, r', hrest, rfl⟩ := BufConsumer.runFills_cons hrun
    obtain ⟨⟨hf1, hf2⟩, hdle⟩ := fill_sim hcap F bc c h d hd hfit
    obtain ⟨⟨h1, h2⟩, h3⟩ := ih _ _ hf2 r' hrest
    exact ⟨⟨by rw [Consumer.run, hf1, h1], h2⟩, List.forall_mem_cons.mpr ⟨hdle, h3⟩⟩

theorem fits_of_refines {spec : Bytes → SRes} {Inv : σ → Bytes → Prop} (R : Refines init feed spec Inv)
    (hdone : ∀ b c d r, (b = [] ∨ spec b = .need) → spec (b ++ c) = .done d r → r.length ≤ c.length)
    (hfail : ∀ b c r, (b = [] ∨ spec b = .need) → spec (b ++ c) = .fail r → r.length ≤ c.length) :
    Fits init feed (fun s => ∃ b, Inv s b ∧ (b = [] ∨ spec b = .need)) where
  init := ⟨[], R.init, .inl rfl⟩
  need s c s' := fun ⟨b, hi, _⟩ hf =>
    ⟨b ++ c, (R.step s b c hi).2 s' hf, .inr ((R.step s b c hi).1.symm.trans (congrArg Res.erase hf))⟩
  done_le s c d r := fun ⟨b, hi, hb⟩ hf =>
    hdone b c d r hb ((R.step s b c hi).1.symm.trans (congrArg Res.erase hf))
  fail_le s c r := fun ⟨b, hi, hb⟩ hf =>
    hfail b c r hb ((R.step s b c hi).1.symm.trans (congrArg Res.erase hf))

end

/-! ### the generic framers fit

By the loader law `ok_pre`/`bad_pre` a frame is decided as soon as its last byte is there, so a remainder lies within
the chunk just sent. -/

theorem feed_fits (load : Bytes → LoadRes) (S : Stable load) (limit : Nat) :
    Fits init (feed load limit) (fun s => ∃ b, Inv s b ∧ (b = [] ∨ spec load limit b = .need)) :=
  fits_of_refines (feed_refines load limit)
    (fun b c d r hb h => specU_rest_le_chunk load S b c d r
      (hb.elim .inl fun hn => .inr (spec_inside hn nofun).2) (spec_inside h nofun).2)
    (fun b c r _ h => by rw [(spec_fail h).2]; exact Nat.zero_le _)

theorem cfeed_fits (dec : Bytes → DecRes) (S : Stable (loadOf dec)) :
    Fits cinit (cfeed dec) (fun s => ∃ b, CInv s b ∧ (b = [] ∨ specU (loadOf dec) b = .need)) :=
  fits_of_refines (cfeed_refines dec) (specU_rest_le_chunk (loadOf dec) S) (fun _ _ _ _ h => absurd h specU_ne_fail)

theorem buffered_run_frames (load : Bytes → LoadRes) (S : Stable load) (P : Progress load)
    (limit hint : Nat) (hlimit : 0 < limit) (hhint : 0 < hint)
    (fs : List Bytes) (hfs : ∀ f ∈ fs, IsFrame load f) (hsafe : ∀ f ∈ fs, f.length + bufCap limit hint ≤ limit + 1)
    (fills : List Bytes) (hcut : fills.flatten = fs.flatten) (r : BufConsumer State × List Item)
    (hrun : BufConsumer.runFills init 0 (bufCap limit hint) (bfeed load limit) BufConsumer.new fills = some r) :
    r.2 = fs.map (frameItem load) ∧ r.1.crashed = false ∧ r.1.written = 0 ∧ ∀ s, r.1.fr = some s → s.buf = [] := by
  have hcap : 0 < bufCap limit hint := Nat.lt_min.mpr ⟨hhint, hlimit⟩
  have F := feed_fits load S limit
  rw [bfeed_eq] at hrun
  obtain ⟨⟨hitems, hsim⟩, hlen⟩ := runFills_sim hcap F fills _ _ (sim_new _ _ _ F.init) r hrun
  obtain ⟨hcopy, hrel⟩ := copy_run_frames load S P limit _ fs hfs hsafe fills hlen hcut
  -- the copying consumer holds no byte, in its buffer or in its framer
  have hc : (Consumer.run init (feed load limit) Consumer.new fills).1.buffer = [] ∧
      ((Consumer.run init (feed load limit) Consumer.new fills).1.fr.getD init).buf = [] := by
    rcases hrel with ⟨hfr, hbuf⟩ | ⟨s, hfr, hbuf, hinv, -⟩
    · rw [hfr]; exact ⟨hbuf, rfl⟩
    · rw [hfr]; exact ⟨hbuf, hinv.1⟩
  refine ⟨hitems.trans hcopy, hsim.crashed, ?_, fun s hs => ?_⟩
  · rw [← hsim.length_buffer, hc.1]; rfl
  · have := hc.2
    rwa [hsim.fr, hs] at this

end EasyNet.GenericFr

/-
  A concrete loader satisfying the laws (non-vacuity of the generic-framer theorems): the harness's length-prefixed toy
  file format (`ToyFile` / `PeekFile` in harness/vlib/sers.py): 1 byte n (0..200), then n bytes; n > 200 = format error
  after the header byte.
-/
import EasyNet.Lemmas.GenericFrBuf
namespace EasyNet.GenericFr
open EasyNet

def toyLoad : Bytes → LoadRes
  | [] => .eof
  | n :: body =>
    if n.toNat > 200 then .bad 1
    else if body.length < n.toNat then .eof
    else .ok (n.toNat + 1)

theorem toyLoad_cons (n : UInt8) (body : Bytes) :
    toyLoad (n :: body) =
      if n.toNat > 200 then .bad 1 else if body.length < n.toNat then .eof else .ok (n.toNat + 1) := rfl

/-- a verdict needs a header byte `n`: a bad header costs one byte, a packet the header and `n` bytes, and it is
    there exactly when the body has `n` bytes -/
theorem toy_cut (b : Bytes) (t : UInt8) (k : Nat) (h : (toyLoad b).cut = some (t, k)) :
    ∃ n body, b = n :: body ∧ (200 < n.toNat ∧ k = 1 ∨ n.toNat ≤ body.length ∧ k = n.toNat + 1) ∧
    ∀ body' : Bytes, (200 < n.toNat ∨ n.toNat ≤ body'.length) → toyLoad (n :: body') = toyLoad b := by
  cases b with
  | nil => cases h
  | cons n body =>
    refine ⟨n, body, rfl, ?_⟩
    rw [toyLoad_cons] at h
    by_cases h1 : n.toNat > 200
    · rw [if_pos h1] at h
      cases h
      exact ⟨.inl ⟨h1, rfl⟩, fun _ _ => by rw [toyLoad_cons, toyLoad_cons, if_pos h1, if_pos h1]⟩
    · rw [if_neg h1] at h
      by_cases h2 : body.length < n.toNat
      · rw [if_pos h2] at h; cases h
      · rw [if_neg h2] at h
        cases h
        exact ⟨.inr ⟨Nat.le_of_not_lt h2, rfl⟩, fun body' h' => by
          rw [toyLoad_cons, toyLoad_cons, if_neg h1, if_neg h1, if_neg h2,
            if_neg (Nat.not_lt.mpr (h'.resolve_left h1))]⟩

theorem toyLoad_stable : Stable toyLoad :=
  .of_cut
    (ext := fun b x t k h => by
      obtain ⟨n, body, rfl, hk, hsame⟩ := toy_cut b t k h
      refine hsame (body ++ x) (hk.imp And.left fun h2 => ?_)
      rw [List.length_append]; exact Nat.le_trans h2.1 (Nat.le_add_right _ _))
    (le := fun b t k h => by
      obtain ⟨n, body, rfl, ⟨-, rfl⟩ | ⟨h2, rfl⟩, -⟩ := toy_cut b t k h
      · exact Nat.succ_le_succ (Nat.zero_le _)
      · exact Nat.succ_le_succ h2)
    (pre := fun b x t k h hk => by
      obtain ⟨n, body', hb, hk', hsame⟩ := toy_cut (b ++ x) t k h
      cases b with
      | nil => rcases hk' with ⟨-, rfl⟩ | ⟨-, rfl⟩ <;> cases hk
      | cons m body =>
        cases hb
        refine hsame body (hk'.imp And.left ?_)
        rintro ⟨-, rfl⟩
        exact Nat.le_of_succ_le_succ hk)

theorem toyLoad_progress : Progress toyLoad := by
  have : ∀ b t k, (toyLoad b).cut = some (t, k) → 0 < k := by
    intro b t k h
    obtain ⟨n, body, -, ⟨-, rfl⟩ | ⟨-, rfl⟩, -⟩ := toy_cut b t k h <;> exact Nat.succ_pos _
  exact ⟨fun b k h => this b okTag k (congrArg LoadRes.cut h), fun b k h => this b badTag k (congrArg LoadRes.cut h)⟩

instance (load : Bytes → LoadRes) (f : Bytes) : Decidable (IsFrameD load f) := by
  unfold IsFrameD; infer_instance

end EasyNet.GenericFr

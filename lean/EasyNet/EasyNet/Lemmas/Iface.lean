/-
  What the receive loops of the endpoints (C03) and of the stream server (C15) need of a consumer: the interface laws
  `IfaceSim`, restated operation by operation as "the consumer answers to the bytes it has to look at" (`Answers`), and the
  invariant they maintain, "the consumer tracks the reference decoder `refRun` over the reads made" (`Tracks`, `Drained`).
  The copying consumer over any framer that refines a byte-level spec satisfies the laws (`copyIface_sim`), and so does
  the buffer-filling consumer over any buffered framer that does (`bufIface_sim`).
-/
import EasyNet.Model.StreamServer
import EasyNet.Lemmas.ConsumerSim
import EasyNet.Lemmas.BufConsumerSim
namespace EasyNet.C15
open EasyNet

/-- "the consumer state `k` retains the bytes `h`" for the operations the receivers use.
    `decodeW spec h = (h, [])` says: nothing complete is held. -/
structure IfaceSim {κ : Type} (I : Iface κ) (spec : Bytes → SRes) (Rel : κ → Bytes → Prop) : Prop where
  drain_some : ∀ k h k' it, Rel k h → I.drainNext k = (k', some it) →
    ∃ h', Rel k' h' ∧ decodeW spec h = ((decodeW spec h').1, it :: (decodeW spec h').2)
  drain_none : ∀ k h k', Rel k h → I.drainNext k = (k', none) → Rel k' h ∧ decodeW spec h = (h, [])
  want_rel : ∀ k h, Rel k h → Rel (I.want k).1 h
  feed_some : ∀ k h d k' it, Rel k h → decodeW spec h = (h, []) → d.length ≤ (I.want k).2 →
    I.feed (I.want k).1 d = (k', some it) →
    ∃ h', Rel k' h' ∧ decodeW spec (h ++ d) = ((decodeW spec h').1, it :: (decodeW spec h').2)
  feed_none : ∀ k h d k', Rel k h → decodeW spec h = (h, []) → d.length ≤ (I.want k).2 →
    I.feed (I.want k).1 d = (k', none) →
    Rel k' (h ++ d) ∧ decodeW spec (h ++ d) = (h ++ d, [])


section
variable {spec : Bytes → SRes}

theorem decodeW_idle (P : ProgLaws spec) {b : Bytes} (h : decodeW spec b = (b, [])) : b = [] ∨ spec b = .need := by
  cases hs : spec b with
  | need => exact Or.inr rfl
  | done d r => rw [P.decodeW_of_done hs] at h; cases congrArg Prod.snd h
  | fail r => rw [P.decodeW_of_fail hs] at h; cases congrArg Prod.snd h

theorem refRun_append (spec : Bytes → SRes) (h : Bytes) (a b : List Bytes) :
    refRun spec h (a ++ b) =
      ((refRun spec (refRun spec h a).1 b).1, (refRun spec h a).2 ++ (refRun spec (refRun spec h a).1 b).2) := by
  induction a generalizing h with
  | nil => simp [refRun]
  | cons c cs ih =>
    simp only [List.cons_append, refRun]
    rw [ih]
    simp [List.append_assoc]

theorem refRun_snoc (P : ProgLaws spec) (reads : List Bytes) (d h : Bytes) (D : List Item)
    (hr : refRun spec [] reads = (h, D)) :
    refRun spec [] (reads ++ [d]) = ((decodeW spec (h ++ d)).1, D ++ (decodeW spec (h ++ d)).2) := by
  rw [refRun_append, hr]
  simp only [refRun, List.append_nil]
  rw [P.refRecv_eq_decodeW]

end


variable {κ : Type} {I : Iface κ} {spec : Bytes → SRes} {Rel : κ → Bytes → Prop}

/-- `a` is a right answer of a consumer that has the bytes `b` to look at: an item is the first one in `b` (and the
    new state retains what follows it), no item means that `b` holds nothing complete and is retained -/
def Answers (spec : Bytes → SRes) (Rel : κ → Bytes → Prop) (b : Bytes) (a : κ × Option Item) : Prop :=
  match a.2 with
  | some it => ∃ h', Rel a.1 h' ∧ decodeW spec b = ((decodeW spec h').1, it :: (decodeW spec h').2)
  | none => Rel a.1 b ∧ decodeW spec b = (b, [])

theorem _root_.EasyNet.Follows.answers (P : ProgLaws spec) {Q : κ → Bytes → Prop} {b : Bytes} {a : κ × Option Item}
    (h : Follows spec Rel Q b a) : Answers spec Rel b a := by
  cases hs : (spec b).out with
  | none =>
    have hn := SRes.out_eq_none.mp hs
    obtain ⟨k, rfl, hr⟩ := h.1 (Or.inr hn)
    exact ⟨hr, decodeW_of_need hn⟩
  | some x =>
    obtain ⟨k, rfl, hr, _⟩ := h.2 (fun e => by have := P.out_lt hs; rw [e] at this; cases this) x.1 x.2 hs
    exact ⟨x.2, hr, P.decodeW_of_out hs⟩

theorem IfaceSim.of_answers
    (drain : ∀ k h, Rel k h → Answers spec Rel h (I.drainNext k))
    (want : ∀ k h, Rel k h → Rel (I.want k).1 h)
    (feed : ∀ k h d, Rel k h → decodeW spec h = (h, []) → d.length ≤ (I.want k).2 →
      Answers spec Rel (h ++ d) (I.feed (I.want k).1 d)) : IfaceSim I spec Rel where
  drain_some k h k' it hr hd := by have := drain k h hr; rwa [hd] at this
  drain_none k h k' hr hd := by have := drain k h hr; rwa [hd] at this
  want_rel := want
  feed_some k h d k' it hr hdec hlen hf := by have := feed k h d hr hdec hlen; rwa [hf] at this
  feed_none k h d k' hr hdec hlen hf := by have := feed k h d hr hdec hlen; rwa [hf] at this

theorem IfaceSim.drain (Sim : IfaceSim I spec Rel) {k : κ} {h : Bytes} (hr : Rel k h) :
    Answers spec Rel h (I.drainNext k) :=
  match hd : I.drainNext k with
  | (k', some it) => Sim.drain_some k h k' it hr hd
  | (k', none) => Sim.drain_none k h k' hr hd

theorem IfaceSim.feed (Sim : IfaceSim I spec Rel) {k : κ} {h d : Bytes} (hr : Rel k h) (hdec : decodeW spec h = (h, []))
    (hlen : d.length ≤ (I.want k).2) : Answers spec Rel (h ++ d) (I.feed (I.want k).1 d) :=
  match hf : I.feed (I.want k).1 d with
  | (k', some it) => Sim.feed_some k h d k' it hr hdec hlen hf
  | (k', none) => Sim.feed_none k h d k' hr hdec hlen hf

/-- the consumer `k` holds some bytes `h`; the reference decoder run over `reads` has delivered `D` plus what is
    still complete inside `h` -/
def Tracks (spec : Bytes → SRes) (Rel : κ → Bytes → Prop) (k : κ) (reads : List Bytes) (D : List Item) : Prop :=
  ∃ h, Rel k h ∧ refRun spec [] reads = ((decodeW spec h).1, D ++ (decodeW spec h).2)

/-- `Tracks`, and nothing complete is held: the reference decoder has delivered exactly `D` -/
def Drained (spec : Bytes → SRes) (Rel : κ → Bytes → Prop) (k : κ) (reads : List Bytes) (D : List Item) : Prop :=
  ∃ h, Rel k h ∧ decodeW spec h = (h, []) ∧ refRun spec [] reads = (h, D)

section
variable {k : κ} {reads : List Bytes} {D : List Item}

theorem Drained.tracks (h : Drained spec Rel k reads D) : Tracks spec Rel k reads D := by
  obtain ⟨b, hr, hd, hrun⟩ := h
  exact ⟨b, hr, by rw [hd, hrun, List.append_nil]⟩

theorem Tracks.init (h0 : Rel k []) : Tracks spec Rel k [] [] :=
  ⟨[], h0, rfl⟩

theorem Answers.tracks {b : Bytes} {a : κ × Option Item} (ha : Answers spec Rel b a)
    (hrun : refRun spec [] reads = ((decodeW spec b).1, D ++ (decodeW spec b).2)) :
    Tracks spec Rel a.1 reads (D ++ a.2.toList) ∧ (a.2 = none → Drained spec Rel a.1 reads D) := by
  obtain ⟨k', r⟩ := a
  cases r with
  | some it =>
    obtain ⟨h', hr, hdec⟩ := ha
    exact ⟨⟨h', hr, by rw [hrun, hdec]; simp⟩, nofun⟩
  | none =>
    obtain ⟨hr, hdec⟩ := ha
    rw [hdec] at hrun
    exact ⟨⟨b, hr, by rw [hrun, hdec]; simp⟩, fun _ => ⟨b, hr, hdec, by rw [hrun, List.append_nil]⟩⟩

theorem Tracks.drain (Sim : IfaceSim I spec Rel) (h : Tracks spec Rel k reads D) :
    Tracks spec Rel (I.drainNext k).1 reads (D ++ (I.drainNext k).2.toList) ∧
    ((I.drainNext k).2 = none → Drained spec Rel (I.drainNext k).1 reads D) := by
  obtain ⟨b, hr, hrun⟩ := h
  exact (Sim.drain hr).tracks hrun

theorem Drained.drain (Sim : IfaceSim I spec Rel) (h : Drained spec Rel k reads D) :
    (I.drainNext k).2 = none ∧ Drained spec Rel (I.drainNext k).1 reads D := by
  obtain ⟨b, hr, hdec, hrun⟩ := h
  have ha := Sim.drain hr
  unfold Answers at ha
  split at ha
  · obtain ⟨h', _, hdec'⟩ := ha
    rw [hdec] at hdec'
    cases congrArg Prod.snd hdec'
  · exact ⟨‹_›, b, ha.1, hdec, hrun⟩

theorem Drained.want (Sim : IfaceSim I spec Rel) (h : Drained spec Rel k reads D) :
    Drained spec Rel (I.want k).1 reads D := by
  obtain ⟨b, hr, hd⟩ := h
  exact ⟨b, Sim.want_rel k b hr, hd⟩

/-- one transport read of at most the size asked for, handed to the consumer -/
theorem Drained.feed (Sim : IfaceSim I spec Rel) (P : ProgLaws spec) {d : Bytes}
    (h : Drained spec Rel k reads D) (hlen : d.length ≤ (I.want k).2) :
    Tracks spec Rel (I.feed (I.want k).1 d).1 (reads ++ [d]) (D ++ (I.feed (I.want k).1 d).2.toList) ∧
    ((I.feed (I.want k).1 d).2 = none → Drained spec Rel (I.feed (I.want k).1 d).1 (reads ++ [d]) D) := by
  obtain ⟨b, hr, hdec, hrun⟩ := h
  exact (Sim.feed hr hdec hlen).tracks (refRun_snoc P reads d b D hrun)

end

section
variable {σ : Type} {init : σ} {feed : σ → Bytes → Res σ} {FInv : σ → Bytes → Prop}
theorem copyIface_sim (R : Refines init feed spec FInv) (P : ProgLaws spec) (maxRecv : Nat) :
    IfaceSim (copyIface init feed maxRecv) spec (Consumer.Rel spec FInv) :=
  IfaceSim.of_answers
    (fun _ _ hr => by have := (Consumer.next_ref R hr []).answers P; rwa [List.append_nil] at this)
    (fun _ _ hr => hr)
    (fun _ _ d hr _ _ => (Consumer.next_ref R hr d).answers P)

end

section
variable {σ : Type} {init : σ} {feed : σ → Bytes → Nat → BRes σ} {acc : σ → Nat} {Inv : σ → Bytes → Prop}

theorem bufIface_sim (cap : Nat) (R : BRefines init feed acc spec Inv cap) (hcap : 0 < cap) :
    IfaceSim (bufIface init 0 cap feed) spec (BufConsumer.Rel acc spec Inv cap) :=
  IfaceSim.of_answers
    (fun _ _ hr => (hr.next_none R hcap).answers R.prog)
    (fun _ _ hr => (BufConsumer.prepare_active R hcap hr).elim fun _ hA => hA.rel)
    (fun k h d hr _ hfit => by
      obtain ⟨s, hA⟩ := BufConsumer.prepare_active (init := init) R hcap hr
      -- the transport writes `d` (possibly nothing) into the room offered, then `next(len d)`
      obtain ⟨hA', htake⟩ := hA.write hfit
      exact (hA'.next_out R hcap (hA.room ▸ hfit) htake).answers R.prog)

end

end EasyNet.C15

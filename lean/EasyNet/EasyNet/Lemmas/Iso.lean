/-
  C17 lemmas: whatever a layer lets through is made of leaves of what entered it (split only prunes), a plain layer that
  swallows every class `≤ Exception` swallows every Exception tree of any shape, hence a chain containing such a layer
  swallows every Exception tree.
-/
import EasyNet.Model.Iso
namespace EasyNet.Iso

variable {κ : Type}

theorem leavesList_append (a b : List (Tree κ)) : leavesList (a ++ b) = leavesList a ++ leavesList b := by
  induction a with
  | nil => rfl
  | cons t ts ih => simp only [List.cons_append, leavesList, ih, List.append_assoc]

def optLeaves : Option (Tree κ) → List κ
  | none => []
  | some t => t.leaves

theorem leavesList_toList (o : Option (Tree κ)) : leavesList o.toList = optLeaves o := by
  cases o <;> simp [leavesList, optLeaves]

theorem optLeaves_optGroup (l : List (Tree κ)) : optLeaves (optGroup l) = leavesList l := by
  cases l <;> rfl

theorem split_leaves (m : Tree κ → Bool) (t : Tree κ) :
    optLeaves (split m t).1 ⊆ t.leaves ∧ optLeaves (split m t).2 ⊆ t.leaves := by
  induction t using Tree.rec (motive_2 := fun ts =>
      leavesList (splitList m ts).1 ⊆ leavesList ts ∧ leavesList (splitList m ts).2 ⊆ leavesList ts) with
  | leaf c =>
    rw [split]
    split <;> simp [optLeaves]
  | group cs ih =>
    rw [split]
    split
    · simp [optLeaves]
    · simpa only [optLeaves_optGroup, Tree.leaves] using ih
  | nil => simp [splitList]
  | cons t ts iht ihts =>
    simp only [splitList, leavesList_append, leavesList_toList, leavesList, List.append_subset]
    exact ⟨⟨List.subset_append_of_subset_left _ iht.1, List.subset_append_of_subset_right _ ihts.1⟩,
      List.subset_append_of_subset_left _ iht.2, List.subset_append_of_subset_right _ ihts.2⟩

theorem split_fst_leaves (m : Tree κ → Bool) (t r : Tree κ) (h : (split m t).1 = some r) : ∀ c ∈ r.leaves, c ∈ t.leaves := by
  have := (split_leaves m t).1
  rw [h] at this
  exact fun c => @this c

theorem clsOf_leaf (K : Classes κ) (c : κ) : (Tree.leaf c).clsOf K = c := rfl

variable (K : Classes κ)

theorem Act.apply_eq (a : Act κ) (obj r : Tree κ) (h : a.apply K obj = some r) : r = obj := by
  cases a <;> simp only [Act.apply] at h
  · cases h
  · exact (Option.some.inj h).symm
  · split at h
    · cases h
    · exact (Option.some.inj h).symm

theorem runPlain_eq (cls : List (Clause κ)) (t r : Tree κ) (h : (runPlain K cls t).1 = some r) : r = t := by
  induction cls with
  | nil => exact (Option.some.inj h).symm
  | cons c cs ih =>
    rw [runPlain] at h
    split at h
    · exact Act.apply_eq K _ _ _ h
    · exact ih h

theorem runStarNaked_leaves (cls : List (Clause κ)) (c : κ) (r : Tree κ)
    (h : (runStarNaked K cls c).1 = some r) : r.leaves ⊆ [c] := by
  induction cls with
  | nil => cases h; exact List.Subset.refl _
  | cons cl cs ih =>
    simp only [runStarNaked] at h
    split at h
    · split at h <;> cases h
      simp [Tree.leaves, leavesList]
    · exact ih h

theorem runStarGroup_leaves (cls : List (Clause κ)) (t r : Tree κ)
    (h : (runStarGroup K cls t).1 = some r) : r.leaves ⊆ t.leaves := by
  induction cls generalizing t with
  | nil => cases h; exact List.Subset.refl _
  | cons cl cs ih =>
    simp only [runStarGroup] at h
    split at h
    · exact ih t h
    · split at h
      · exact ih t h
      · split at h
        · cases h
        · rename_i rest hrest
          have := (split_leaves (Tree.isInst K cl.classes) t).2
          rw [hrest] at this
          exact (ih rest h).trans this

theorem runLayer_leaves (l : Layer κ) (t r : Tree κ) (h : (runLayer K l t).1 = some r) :
    r.leaves ⊆ t.leaves := by
  unfold runLayer at h
  split at h
  · split at h
    · exact runStarNaked_leaves K _ _ _ h
    · exact runStarGroup_leaves K _ _ _ h
  · exact runPlain_eq K _ _ _ h ▸ List.Subset.refl _

theorem runLayers_leaves (ls : List (Layer κ)) (t r : Tree κ) (h : (runLayers K ls t).1 = some r) :
    r.leaves ⊆ t.leaves := by
  induction ls generalizing t with
  | nil => cases h; exact List.Subset.refl _
  | cons l ls ih =>
    simp only [runLayers] at h
    split at h
    · cases h
    · rename_i r1 h1
      exact (ih r1 h).trans (runLayer_leaves K l t r1 h1)

theorem allExc_of_subset (t r : Tree κ) (hsub : r.leaves ⊆ t.leaves) (h : t.allExc K = true) :
    r.allExc K = true :=
  List.all_eq_true.2 fun c hc => List.all_eq_true.1 h c (hsub hc)

theorem clsOf_exc (hEG : K.sub K.eg K.exc = true) (t : Tree κ) (h : t.allExc K = true) :
    K.sub (t.clsOf K) K.exc = true := by
  cases t with
  | leaf c => simpa [Tree.allExc, Tree.leaves, Tree.clsOf] using h
  | group cs => rwa [Tree.clsOf, if_pos h]

theorem isInst_cls (cls : List κ) (t : Tree κ) :
    (Tree.leaf (t.clsOf K)).isInst K cls = t.isInst K cls := by
  simp only [Tree.isInst, clsOf_leaf]

theorem apply_isNone_cls (a : Act κ) (t : Tree κ) :
    (a.apply K t).isNone = (a.apply K (.leaf (t.clsOf K))).isNone := by
  cases a with
  | swallowIf c =>
    simp only [Act.apply, clsOf_leaf]
    by_cases h : K.sub (t.clsOf K) c = true <;> simp [h]
  | _ => rfl

theorem runPlain_isNone_cls (cls : List (Clause κ)) (t : Tree κ) :
    (runPlain K cls t).1.isNone = (runPlain K cls (.leaf (t.clsOf K))).1.isNone := by
  induction cls with
  | nil => rfl
  | cons c cs ih =>
    simp only [runPlain, isInst_cls]
    split
    · exact apply_isNone_cls K c.act t
    · exact ih

theorem plainTotal_swallows (all : List κ) (hall : ∀ c, c ∈ all) (hEG : K.sub K.eg K.exc = true)
    (l : Layer κ) (hl : l.plainTotal K all = true) (t : Tree κ) (h : t.allExc K = true) :
    (runLayer K l t).1 = none := by
  simp only [Layer.plainTotal, Bool.and_eq_true, Bool.not_eq_true', List.all_eq_true, List.mem_filter] at hl
  have hc := hl.2 (t.clsOf K) ⟨hall _, clsOf_exc K hEG t h⟩
  rw [← runPlain_isNone_cls] at hc
  simpa only [runLayer, hl.1, Bool.false_eq_true, if_false, Option.isNone_iff_eq_none] using hc

theorem guarded_swallows (all : List κ) (hall : ∀ c, c ∈ all) (hEG : K.sub K.eg K.exc = true)
    (ls : List (Layer κ)) (hg : ls.any (Layer.plainTotal K all) = true) (t : Tree κ) (ht : t.allExc K = true) :
    (runLayers K ls t).1 = none := by
  induction ls generalizing t with
  | nil => cases hg
  | cons l ls ih =>
    simp only [runLayers]
    split
    · rfl
    · rename_i r hr
      rw [List.any_cons, Bool.or_eq_true] at hg
      cases hg with
      | inl hl => cases (plainTotal_swallows K all hall hEG l hl t ht).symm.trans hr
      | inr hg => exact ih hg r (allExc_of_subset K t r (runLayer_leaves K l t r hr) ht)

theorem escape_has_nonexc (ls : List (Layer κ))
    (hT : ∀ t : Tree κ, t.allExc K = true → (runLayers K ls t).1 = none) (t r : Tree κ)
    (h : (runLayers K ls t).1 = some r) :
    (∃ c ∈ t.leaves, K.sub c K.exc = false) ∧ ∀ c ∈ r.leaves, c ∈ t.leaves := by
  refine ⟨?_, fun c hc => runLayers_leaves K ls t r h hc⟩
  cases hx : t.allExc K with
  | true => cases (hT t hx).symm.trans h
  | false => simpa [Tree.allExc] using hx

end EasyNet.Iso

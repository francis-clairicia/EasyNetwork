/-
  C17 lemmas about the TCP per-client epilogue machine (Model/Iso.lean part 2).  Each step is stated as an equation
  "the state with these fields changed", the fields the theorems do not speak of (hook log, log records) being left
  existential.
-/
import EasyNet.Lemmas.Iso
namespace EasyNet.Iso

variable {κ : Type}

def TcpSt.Inv (K : Classes κ) (s : TcpSt κ) : Prop := ∀ e, s.inflight = some e → e.allExc K = true

theorem startGens_eq (s : TcpSt κ) (n i : Nat) :
    startGens s n i = { s with hooks := (startGens s n i).hooks, gensStarted := s.gensStarted + n,
                               gensClosed := s.gensClosed + n } := by
  induction n generalizing s i with
  | zero => rfl
  | succ n ih =>
    rw [startGens, ih]
    simp [TcpSt.hook, Nat.add_assoc, Nat.add_comm 1 n]

/-- the exit stacks of a client task when it calls `on_connection` (`tcpEnter`), top first -/
def baseStack : List Cb :=
  [.yieldClientTry, .markClosing, .logDisconnected, .linger, .suppressAndLog, .bindServer, .clearConsumer, .closeTransport]

theorem tcpForward_eq (od : Bool) (p : TcpPos) (t : Tree κ) :
    ∃ hs g i, tcpForward od p t =
        { stack := (if od && !p.ocFault then [Cb.disconnectClient] else []) ++ baseStack, hooks := hs,
          ocDone := !p.ocFault, gensStarted := g, gensClosed := g, inflight := i } ∧
      ∀ e, i = some e → e = t := by
  unfold tcpForward
  -- `s4`: `disconnect_client` is registered, no `handle` generator yet; `s5`: after the complete generators
  extract_lets s0 s1 s2 s3 s4 s5
  obtain ⟨hs, h⟩ : ∃ hs, s5 = { s4 with
      hooks := hs, gensStarted := s4.gensStarted + (p.gen - 1), gensClosed := s4.gensClosed + (p.gen - 1) } :=
    ⟨_, startGens_eq _ _ _⟩
  clear_value s5
  subst h
  cases p.ocFault
  · cases od <;> cases p.raises
    · exact ⟨_, _, _, rfl, nofun⟩
    · exact ⟨_, _, _, rfl, fun _ h => (Option.some.inj h).symm⟩
    · exact ⟨_, _, _, rfl, nofun⟩
    · exact ⟨_, _, _, rfl, fun _ h => (Option.some.inj h).symm⟩
  · cases od <;> exact ⟨_, 0, _, rfl, fun _ h => (Option.some.inj h).symm⟩

def ocFaultNames : List String := ["oc_coro", "oc_pre", "oc_post", "oc_thrown"]

theorem TcpPos.ocFault_eq (p : TcpPos) : p.ocFault = ocFaultNames.contains p.name := by
  cases p <;> dsimp only [TcpPos.name, TcpPos.ocFault] <;> decide +kernel

variable (K : Classes κ) (fs : List (Filter κ)) (odFault : Option (Tree κ))

theorem throughFilter_eq (n : String) (s : TcpSt κ) (h : s.Inv K) :
    ∃ l i, throughFilter K fs n s = { s with logs := l, inflight := i } ∧ ∀ e, i = some e → e.allExc K = true := by
  unfold throughFilter
  split
  · exact ⟨_, _, rfl, h⟩
  · rename_i t ht
    split
    · exact ⟨_, _, rfl, h⟩
    · rename_i f _
      exact ⟨_, _, rfl, fun e he => allExc_of_subset K t e (runLayers_leaves K f.layers t e he) (h t ht)⟩

theorem throughFilter_total (n : String) (F : Filter κ) (hF : findFilter fs n = some F)
    (hT : ∀ t : Tree κ, t.allExc K = true → (runLayers K F.layers t).1 = none) (s : TcpSt κ) (h : s.Inv K) :
    ∃ l, throughFilter K fs n s = { s with logs := l, inflight := none } := by
  unfold throughFilter
  split
  · rename_i hi
    exact ⟨_, by rw [← hi]⟩
  · rename_i t ht
    rw [hF]
    dsimp only
    rw [hT t (h t ht)]
    exact ⟨_, rfl⟩

theorem disconnectClient_eq (hod : ∀ e, odFault = some e → e.allExc K = true) (s : TcpSt κ) (h : s.Inv K) :
    ∃ hs l i, tcpUnwind1 K fs odFault s .disconnectClient =
        { s with hooks := hs, logs := l, odCount := s.odCount + 1, inflight := i } ∧
      ∀ e, i = some e → e.allExc K = true := by
  unfold tcpUnwind1
  cases odFault with
  | none => exact ⟨_, _, _, rfl, h⟩
  | some t =>
    dsimp only
    split
    · exact ⟨_, _, _, rfl, fun e he => Option.some.inj he ▸ hod t rfl⟩
    · rename_i f _
      refine ⟨_, _, _, rfl, fun e he => ?_⟩
      split at he
      · rename_i e' he'
        exact Option.some.inj he ▸ allExc_of_subset K t e' (runLayers_leaves K f.layers t e' he') (hod t rfl)
      · exact h e he

section
variable (F : Filter κ) (hF : findFilter fs "tcp.suppress_and_log" = some F)
  (hT : ∀ t : Tree κ, t.allExc K = true → (runLayers K F.layers t).1 = none)
include hF hT

theorem unwind_baseStack (s : TcpSt κ) (h : s.Inv K) :
    ∃ l, baseStack.foldl (tcpUnwind1 K fs odFault) s =
      { s with logs := l, closed := true, closing := true, inflight := none } := by
  obtain ⟨l1, i1, h1, hi1⟩ := throughFilter_eq K fs "tcp.initializer" s h
  obtain ⟨l2, h2⟩ := throughFilter_total K fs _ F hF hT
    { s with logs := l1, closing := true, inflight := i1 } hi1
  refine ⟨l2, ?_⟩
  change { throughFilter K fs "tcp.suppress_and_log" { throughFilter K fs "tcp.initializer" s with closing := true } with
    closed := true } = _
  rw [h1, h2]

theorem tcpRun_eq (od : Bool) (p : TcpPos) (t : Tree κ) (ht : t.allExc K = true) :
    ∃ hs l g, tcpRun K fs od p t =
      { hooks := hs, logs := l, ocDone := !p.ocFault, odCount := if od && !p.ocFault then 1 else 0, closed := true,
        closing := true, gensStarted := g, gensClosed := g } := by
  obtain ⟨hs, g, i, hfw, hi⟩ := tcpForward_eq od p t
  have hinv : ∀ e, i = some e → e.allExc K = true := fun e he => hi e he ▸ ht
  have hod : ∀ e, p.odFault t = some e → e.allExc K = true := by
    intro e he
    unfold TcpPos.odFault at he
    split at he
    · exact Option.some.inj he ▸ ht
    · cases he
  rw [tcpRun, tcpUnwind, hfw]
  dsimp only
  rw [List.foldl_append]
  cases od && !p.ocFault with
  | false =>
    obtain ⟨l, h⟩ := unwind_baseStack K fs (p.odFault t) F hF hT
      { hooks := hs, ocDone := !p.ocFault, gensStarted := g, gensClosed := g, inflight := i } hinv
    exact ⟨_, _, _, h⟩
  | true =>
    obtain ⟨hs', l', i', h', hi'⟩ := disconnectClient_eq K fs (p.odFault t) hod
      { hooks := hs, ocDone := !p.ocFault, gensStarted := g, gensClosed := g, inflight := i } hinv
    obtain ⟨l, h⟩ := unwind_baseStack K fs (p.odFault t) F hF hT
      { hooks := hs', logs := l', ocDone := !p.ocFault, odCount := 1, gensStarted := g, gensClosed := g, inflight := i' } hi'
    exact ⟨_, _, _, by rw [if_pos rfl, List.foldl, List.foldl, h']; exact h⟩

end

end EasyNet.Iso

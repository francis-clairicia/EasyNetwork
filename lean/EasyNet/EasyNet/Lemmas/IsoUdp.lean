/-
  C17 lemmas on the datagram-server model of C16 (Model/DgramSrv.lean): what the end of a request handler generator
  (`ge`: it returned, or raised and the exception was swallowed above / propagated through `__client_coroutine`'s
  `finally:`) does to the per-client state, and that the next datagram starts a fresh generator.
-/
import EasyNet.Lemmas.DgramSrv
namespace EasyNet.DgramSrv

/-- the generator of this address is running user code (between two yields, or before its first yield) -/
def Client.inHandler {α} (c : Client α) : Prop := c.r = .handling ∨ ∃ d, c.r = .first d

variable {α : Type}

theorem taskDone_running (c : Client α) (hs : c.state = .running) (ha : c.active = 1) (hb : c.bad = false) :
    (taskDone c).bad = false ∧ (taskDone c).active = 0 ∧ (taskDone c).inflight = c.inflight ∧
      (taskDone c).queue = c.queue ∧ (c.queue = [] → (taskDone c).state = .idle ∧ (taskDone c).r = .none) ∧
      (c.queue ≠ [] → (taskDone c).state = .pending ∧ (taskDone c).r = .scheduled) := by
  cases hq : c.queue <;> simp [taskDone, markDone, markPending, hq, hs, ha, hb]

theorem ge_resets (c : Client α) (I : Inv c) (hrun : c.inHandler) :
    ∃ c', step c .ge = some c' ∧ c'.bad = false ∧ c'.active = 0 ∧ c'.inflight = c.inflight ∧ c'.queue = c.queue ∧
      (c.queue = [] → c'.state = .idle ∧ c'.r = .none) ∧
      (c.queue ≠ [] → c'.state = .pending ∧ c'.r = .scheduled) := by
  have coh := I.coh
  unfold Coherent at coh
  rcases hrun with h | ⟨d, h⟩ <;> rw [h] at coh
  · exact ⟨taskDone c, by simp [step, h], taskDone_running c coh.1 coh.2 I.good⟩
  · exact ⟨_, by simp [step, h], taskDone_running { c with consumed := c.consumed ++ [d] } coh.1 coh.2 I.good⟩

theorem fresh_after_reset (c : Client α) (hb : c.bad = false) (ha : c.active = 0) (hs : c.state = .idle)
    (hq : c.queue = []) (hi : c.inflight = []) (d : α) :
    ∃ c', run c [.arrive d, .h] = some c' ∧ c'.r = .first d ∧ c'.state = .running ∧ c'.active = 1 ∧ c'.bad = false := by
  simp [run, step, hi, hs, hq, startInline, coroutineStart, markPending, markRunning, hb, ha]

theorem fresh_after_respawn (c : Client α) (hb : c.bad = false) (ha : c.active = 0) (hs : c.state = .pending)
    (hr : c.r = .scheduled) (hq : c.queue ≠ []) :
    ∃ c' d, step c .rs = some c' ∧ c'.r = .first d ∧ c'.state = .running ∧ c'.active = 1 ∧ c'.bad = false := by
  obtain ⟨d, q, hqq⟩ := List.exists_cons_of_ne_nil hq
  exact ⟨_, d, step_rs hr, coroutineStart_cons hqq hs ▸ ⟨rfl, rfl, congrArg (· + 1) ha, hb⟩⟩

end EasyNet.DgramSrv

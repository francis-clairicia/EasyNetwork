/-
  The stateful raw JSON framer (`JRaw.feed`: counter dictionary, persisted `offset`, look-back `_escaped`) refines the
  byte-level spec `JRaw.spec` (one-pass scan of all accumulated bytes with a running escape parity).
-/
import EasyNet.Lemmas.JRawSpec
import EasyNet.Lemmas.ConsumerSim
namespace EasyNet
namespace JRaw

theorem escapedRev_not (rev : Bytes) : ∀ e, escapedRev rev (!e) = !escapedRev rev e := by
  induction rev with
  | nil => intro e; rfl
  | cons b rest ih =>
    intro e
    simp only [escapedRev]
    split
    · rw [ih (!e), ih e]
    · rfl

theorem escapedRev_cons (ch : UInt8) (rev : Bytes) :
    escapedRev (ch :: rev) false = (ch == BSLASH && !escapedRev rev false) := by
  simp only [escapedRev]
  by_cases h : ch == BSLASH
  · simp only [h, if_true, Bool.true_and]
    exact escapedRev_not rev false
  · simp [h]

inductive MStep where
  | cont (cnt : Counter) (first : Option UInt8)
  | close
  | plain

/-- the body of the `for` loop -/
def mstep (rev : Bytes) (ch : UInt8) (cnt : Counter) (first : Option UInt8) : MStep :=
  match arm rev ch cnt with
  | some cnt' => if closedNow cnt' (firstOf cnt' first) then .close else .cont cnt' (firstOf cnt' first)
  | none => if plainArm ch cnt then .plain else .cont cnt first

theorem scanLoop_cons (rev rest : Bytes) (ch : UInt8) (off : Nat) (cnt : Counter) (first : Option UInt8) :
    scanLoop rev (ch :: rest) off cnt first =
      match mstep rev ch cnt first with
      | .cont cnt' first' => scanLoop (ch :: rev) rest (off + 1) cnt' first'
      | .close => .closed off
      | .plain => .plainAt off := by
  simp only [scanLoop, mstep]
  cases arm rev ch cnt with
  | some cnt' => simp only; split <;> rfl
  | none => simp only; split <;> rfl

/-- the abstraction relation: model loop variables (`enclosure_counter`, `first_enclosure`, the bytes before `offset`)
    vs the spec scanner state -/
def Abs (cnt : Counter) (first : Option UInt8) (rev : Bytes) : SSt → Prop
  | .lead => cnt = Counter.empty ∧ first = none ∧ escapedRev rev false = false
  | .encl k inStr nc ns esc =>
      first = some k ∧ (k = QUOTE ∨ k = LBRACE ∨ k = LBRACK) ∧ cnt.len ≠ 0 ∧
      cnt.get QUOTE = (if inStr then 1 else 0) ∧ cnt.get LBRACE = nc ∧ cnt.get LBRACK = ns ∧
      escapedRev rev false = esc

def StepRel (rev : Bytes) (ch : UInt8) (r : StepRes) : MStep → Prop
  | .cont cnt' first' => ∃ st', r = .cont st' ∧ Abs cnt' first' (ch :: rev) st'
  | .close => r = .close
  | .plain => r = .plain

def IsKey (k : UInt8) : Prop := k = QUOTE ∨ k = LBRACE ∨ k = LBRACK

theorem IsKey.quote : IsKey QUOTE := .inl rfl
theorem IsKey.brace : IsKey LBRACE := .inr (.inl rfl)
theorem IsKey.brack : IsKey LBRACK := .inr (.inr rfl)

theorem Counter.get_of_not_key (m : Counter) {k : UInt8} (hk : ¬ IsKey k) : m.get k = 0 := by
  have h1 : ¬ k = QUOTE := fun h => hk (.inl h)
  have h2 : ¬ k = LBRACE := fun h => hk (.inr (.inl h))
  have h3 : ¬ k = LBRACK := fun h => hk (.inr (.inr h))
  simp only [Counter.get, Counter.slot, beq_iff_eq, h1, h2, h3, if_false]

theorem Counter.get_set (m : Counter) (k : UInt8) (v : Int) (hk : IsKey k) (k' : UInt8) :
    (m.set k v).get k' = if k' = k then v else m.get k' := by
  by_cases hk' : IsKey k'
  · rcases hk with rfl | rfl | rfl <;> rcases hk' with rfl | rfl | rfl <;> rfl
  · rw [if_neg (fun h : k' = k => hk' (h ▸ hk)), Counter.get_of_not_key _ hk', Counter.get_of_not_key _ hk']

theorem Counter.len_set (m : Counter) (k : UInt8) (v : Int) (hk : IsKey k) : (m.set k v).len ≠ 0 := by
  rcases hk with rfl | rfl | rfl
  · show _ + 1 + _ + _ ≠ 0; omega
  · show _ + 1 + _ ≠ 0; omega
  · show _ + _ + 1 ≠ 0; omega

def Matches (cnt : Counter) (inStr : Bool) (nc ns : Int) : Prop :=
  cnt.get QUOTE = (if inStr then 1 else 0) ∧ cnt.get LBRACE = nc ∧ cnt.get LBRACK = ns

theorem Matches.empty : Matches Counter.empty false 0 0 := ⟨rfl, rfl, rfl⟩

section Matches
variable {cnt : Counter} {inStr : Bool} {nc ns : Int} (h : Matches cnt inStr nc ns)
include h

theorem Matches.get_key (k : UInt8) (hk : IsKey k) : cnt.get k = cntOf k inStr nc ns := by
  rcases hk with rfl | rfl | rfl
  · exact h.1
  · exact h.2.1
  · exact h.2.2

theorem Matches.set_quote (i : Bool) : Matches (cnt.set QUOTE (if i then 1 else 0)) i nc ns :=
  ⟨Counter.get_set _ _ _ .quote _, (Counter.get_set _ _ _ .quote _).trans h.2.1,
    (Counter.get_set _ _ _ .quote _).trans h.2.2⟩

theorem Matches.set_brace (v : Int) : Matches (cnt.set LBRACE v) inStr v ns :=
  ⟨(Counter.get_set _ _ _ .brace _).trans h.1, Counter.get_set _ _ _ .brace _,
    (Counter.get_set _ _ _ .brace _).trans h.2.2⟩

theorem Matches.set_brack (v : Int) : Matches (cnt.set LBRACK v) inStr nc v :=
  ⟨(Counter.get_set _ _ _ .brack _).trans h.1, (Counter.get_set _ _ _ .brack _).trans h.2.1,
    Counter.get_set _ _ _ .brack _⟩

end Matches

section arm
variable {rev : Bytes} {cnt : Counter}

theorem arm_quote (he : escapedRev rev false = false) :
    arm rev QUOTE cnt = some (cnt.set QUOTE (if cnt.get QUOTE == 1 then 0 else 1)) := by
  simp only [arm, he, beq_self_eq_true, Bool.not_false, Bool.and_self, if_true]

theorem arm_of_not_quote {ch : UInt8} (hq : (ch == QUOTE && !escapedRev rev false) = false) :
    arm rev ch cnt =
      if cnt.get QUOTE > 0 then none
      else if ch == LBRACE || ch == LBRACK then some (cnt.set ch (cnt.get ch + 1))
      else if ch == RBRACE then some (cnt.set LBRACE (cnt.get LBRACE - 1))
      else if ch == RBRACK then some (cnt.set LBRACK (cnt.get LBRACK - 1))
      else none := by
  simp only [arm, hq, Bool.false_eq_true, if_false]

variable (hgt : ¬ cnt.get QUOTE > 0)
include hgt

theorem arm_lbrace : arm rev LBRACE cnt = some (cnt.set LBRACE (cnt.get LBRACE + 1)) := by
  rw [arm_of_not_quote (not_quote_and (by decide) _), if_neg hgt]; rfl

theorem arm_lbrack : arm rev LBRACK cnt = some (cnt.set LBRACK (cnt.get LBRACK + 1)) := by
  rw [arm_of_not_quote (not_quote_and (by decide) _), if_neg hgt]; rfl

theorem arm_rbrace : arm rev RBRACE cnt = some (cnt.set LBRACE (cnt.get LBRACE - 1)) := by
  rw [arm_of_not_quote (not_quote_and (by decide) _), if_neg hgt]; rfl

theorem arm_rbrack : arm rev RBRACK cnt = some (cnt.set LBRACK (cnt.get LBRACK - 1)) := by
  rw [arm_of_not_quote (not_quote_and (by decide) _), if_neg hgt]; rfl

theorem arm_other {ch : UInt8} (hq : (ch == QUOTE && !escapedRev rev false) = false)
    (h : ch ≠ LBRACE ∧ ch ≠ LBRACK ∧ ch ≠ RBRACE ∧ ch ≠ RBRACK) : arm rev ch cnt = none := by
  simp only [arm_of_not_quote hq, hgt, Bool.or_eq_true, beq_iff_eq, h.1, h.2.1, h.2.2.1, h.2.2.2, or_self, if_false]

end arm

/-- an arm of the `match` that assigns a counter, followed by the `first_enclosure` test, vs `post`; `k` is the first
    enclosure after the assignment: the one before, or `key` itself if this is the first assignment at all -/
theorem event_sim {rev : Bytes} {ch : UInt8} {cnt : Counter} {first : Option UInt8} {k key : UInt8} {v : Int}
    {inStr : Bool} {nc ns : Int} (harm : arm rev ch cnt = some (cnt.set key v)) (hkey : IsKey key)
    (hfirst : firstOf (cnt.set key v) first = some k) (hk : IsKey k) (hm : Matches (cnt.set key v) inStr nc ns)
    (hch : ch ≠ BSLASH) : StepRel rev ch (post k inStr nc ns) (mstep rev ch cnt first) := by
  simp only [mstep, harm, hfirst, closedNow, hm.get_key k hk]
  by_cases hle : cntOf k inStr nc ns ≤ 0
  · simp only [hle, decide_true, if_true]; exact post_close hle
  · simp only [hle, decide_false, Bool.false_eq_true, if_false]
    refine ⟨_, post_cont (Int.not_le.mp hle), rfl, hk, Counter.len_set _ _ _ hkey, hm.1, hm.2.1, hm.2.2, ?_⟩
    rw [escapedRev_cons, beq_eq_false_iff_ne.mpr hch]; rfl

theorem step_sim_lead (rev : Bytes) (ch : UInt8) (cnt : Counter) (first : Option UInt8)
    (h : Abs cnt first rev .lead) : StepRel rev ch (step .lead ch) (mstep rev ch cnt first) := by
  obtain ⟨rfl, rfl, he⟩ := h
  have hgt : ¬ Counter.empty.get QUOTE > 0 := by decide
  by_cases h1 : ch = QUOTE
  · subst h1
    rw [show step .lead QUOTE = post QUOTE true 0 0 by decide]
    exact event_sim (arm_quote he) .quote (by decide) .quote (Matches.empty.set_quote true) (by decide)
  by_cases h2 : ch = LBRACE
  · subst h2
    rw [show step .lead LBRACE = post LBRACE false (Counter.empty.get LBRACE + 1) 0 by decide]
    exact event_sim (arm_lbrace hgt) .brace (by decide) .brace (Matches.empty.set_brace _) (by decide)
  by_cases h3 : ch = LBRACK
  · subst h3
    rw [show step .lead LBRACK = post LBRACK false 0 (Counter.empty.get LBRACK + 1) by decide]
    exact event_sim (arm_lbrack hgt) .brack (by decide) .brack (Matches.empty.set_brack _) (by decide)
  by_cases h4 : ch = RBRACE
  · subst h4
    rw [show step .lead RBRACE = post LBRACE false (Counter.empty.get LBRACE - 1) 0 by decide]
    exact event_sim (arm_rbrace hgt) .brace (by decide) .brace (Matches.empty.set_brace _) (by decide)
  by_cases h5 : ch = RBRACK
  · subst h5
    rw [show step .lead RBRACK = post LBRACK false 0 (Counter.empty.get LBRACK - 1) by decide]
    exact event_sim (arm_rbrack hgt) .brack (by decide) .brack (Matches.empty.set_brack _) (by decide)
  have c1 := not_quote_and h1 (!escapedRev rev false)
  simp only [mstep, arm_other hgt c1 ⟨h2, h3, h4, h5⟩, plainArm, hgt, decide_false, Bool.not_false, Bool.true_and, step,
    beq_iff_eq, h1, h2, h3, h4, h5, if_false]
  cases h6 : isWs ch
  · exact rfl
  · refine ⟨.lead, rfl, rfl, rfl, ?_⟩
    rw [escapedRev_cons, he]
    cases hb : ch == BSLASH
    · rfl
    · rw [beq_iff_eq.mp hb] at h6; cases h6

theorem step_sim_encl (rev : Bytes) (ch : UInt8) (cnt : Counter) (first : Option UInt8)
    (k : UInt8) (inStr : Bool) (nc ns : Int) (esc : Bool)
    (h : Abs cnt first rev (.encl k inStr nc ns esc)) :
    StepRel rev ch (step (.encl k inStr nc ns esc) ch) (mstep rev ch cnt first) := by
  obtain ⟨rfl, hk, hlen, hq, rfl, rfl, rfl⟩ := h
  have hm : Matches cnt inStr (cnt.get LBRACE) (cnt.get LBRACK) := ⟨hq, rfl, rfl⟩
  -- an arm that `continue`s: only the look-back parity moves
  have skip : arm rev ch cnt = none → plainArm ch cnt = false →
      StepRel rev ch (.cont (.encl k inStr (cnt.get LBRACE) (cnt.get LBRACK) (ch == BSLASH && !escapedRev rev false)))
        (mstep rev ch cnt (some k)) := fun harm hpl => by
    simp only [mstep, harm, hpl, Bool.false_eq_true, if_false]
    exact ⟨_, rfl, rfl, hk, hlen, hq, rfl, rfl, escapedRev_cons ch rev⟩
  by_cases c1 : (ch == QUOTE && !escapedRev rev false) = true
  · rw [Bool.and_eq_true, beq_iff_eq, Bool.not_eq_true'] at c1
    obtain ⟨rfl, he⟩ := c1
    rw [he, step_quote]
    have hv : (if cnt.get QUOTE == 1 then 0 else 1 : Int) = if !inStr then 1 else 0 := by rw [hq]; cases inStr <;> rfl
    exact event_sim (hv ▸ arm_quote he) .quote rfl hk (hm.set_quote _) (by decide)
  rw [Bool.not_eq_true] at c1
  cases inStr with
  | true =>
    have hgt : cnt.get QUOTE > 0 := by rw [hq]; decide
    rw [step_other c1 (.inl rfl)]
    refine skip ((arm_of_not_quote c1).trans (if_pos hgt)) ?_
    simp only [plainArm, hgt, decide_true, Bool.not_true, Bool.false_and]
  | false =>
    have hgt : ¬ cnt.get QUOTE > 0 := by rw [hq]; decide
    by_cases c3 : ch = LBRACE
    · subst c3; rw [step_lbrace]
      exact event_sim (arm_lbrace hgt) .brace rfl hk (hm.set_brace _) (by decide)
    by_cases c4 : ch = LBRACK
    · subst c4; rw [step_lbrack]
      exact event_sim (arm_lbrack hgt) .brack rfl hk (hm.set_brack _) (by decide)
    by_cases c5 : ch = RBRACE
    · subst c5; rw [step_rbrace]
      exact event_sim (arm_rbrace hgt) .brace rfl hk (hm.set_brace _) (by decide)
    by_cases c6 : ch = RBRACK
    · subst c6; rw [step_rbrack]
      exact event_sim (arm_rbrack hgt) .brack rfl hk (hm.set_brack _) (by decide)
    rw [step_other c1 (.inr ⟨c3, c4, c5, c6⟩)]
    refine skip (arm_other hgt c1 ⟨c3, c4, c5, c6⟩) ?_
    simp only [plainArm, Bool.and_eq_false_iff, beq_eq_false_iff_ne]; exact .inr hlen

theorem step_sim (rev : Bytes) (ch : UInt8) (cnt : Counter) (first : Option UInt8) (st : SSt)
    (h : Abs cnt first rev st) : StepRel rev ch (step st ch) (mstep rev ch cnt first) := by
  cases st with
  | lead => exact step_sim_lead rev ch cnt first h
  | encl k inStr nc ns esc => exact step_sim_encl rev ch cnt first k inStr nc ns esc h

theorem scanLoop_sim (rest : Bytes) : ∀ (rev : Bytes) (off : Nat) (cnt : Counter) (first : Option UInt8) (st : SSt),
    Abs cnt first rev st →
    match scanLoop rev rest off cnt first with
    | .closed o => sscan st off rest = .closed (o + 1)
    | .plainAt o => sscan st off rest = .plain o
    | .exhausted cnt' first' => ∃ st', sscan st off rest = .opened st' ∧ Abs cnt' first' (rest.reverse ++ rev) st' := by
  induction rest with
  | nil => intro rev off cnt first st h; exact ⟨st, rfl, h⟩
  | cons ch rest ih =>
    intro rev off cnt first st h
    have hs := step_sim rev ch cnt first st h
    rw [scanLoop_cons]
    generalize mstep rev ch cnt first = m at hs ⊢
    cases m with
    | cont cnt' first' =>
      obtain ⟨st', hst, habs⟩ := hs
      simpa only [sscan, hst, List.reverse_cons, List.append_assoc, List.singleton_append] using
        ih (ch :: rev) (off + 1) cnt' first' st' habs
    | close => simp only [sscan, show step st ch = .close from hs]
    | plain => simp only [sscan, show step st ch = .plain from hs]

theorem split_erase (doc : Bytes) (consumed limit : Nat) :
    (split doc consumed limit : Res State).erase = splitS doc consumed limit := by
  simp only [split, splitS, apply_ite Res.erase]
  rfl

theorem split_ne_need (doc : Bytes) (consumed limit : Nat) (s : State) : split doc consumed limit ≠ .need s :=
  fun h => splitS_ne_need doc consumed limit (by rw [← split_erase, h]; rfl)

/-- `Inv limit s b`: `s` is the suspended generator after having been sent `b` in total (and no limit check fired) -/
def Inv (limit : Nat) (s : State) (b : Bytes) : Prop :=
  (s.plain = false ∧ s.doc = b ∧ s.offset = b.length ∧ b.length ≤ limit ∧
    ∃ st, sscan .lead 0 b = .opened st ∧ Abs s.cnt s.first b.reverse st) ∨
  (s.plain = true ∧ ∃ w, sscan .lead 0 b = .plain w ∧ s.doc = b.drop w ∧ nprintIdx s.doc = none ∧ s.doc.length ≤ limit)

theorem inv_init (limit : Nat) : Inv limit init [] :=
  .inl ⟨rfl, rfl, rfl, Nat.zero_le _, .lead, rfl, rfl, rfl, rfl⟩

/-- the in-progress size check of either loop: `if len(partial_document) > limit: raise`, else suspend in `s` -/
theorem check_spec {limit : Nat} {doc b : Bytes} {s : State} (hinv : doc.length ≤ limit → Inv limit s b) :
    (if doc.length > limit then Res.fail (doc.drop doc.length) else .need s).erase =
        (if doc.length > limit then .fail [] else .need) ∧
      ∀ s', (if doc.length > limit then Res.fail (doc.drop doc.length) else .need s) = .need s' → Inv limit s' b := by
  by_cases hl : doc.length > limit
  · rw [if_pos hl, if_pos hl, List.drop_length]; exact ⟨rfl, fun _ h => by cases h⟩
  · rw [if_neg hl, if_neg hl]; exact ⟨rfl, fun s' hs' => by cases hs'; exact hinv (Nat.le_of_not_lt hl)⟩

theorem plainLoop_spec {limit : Nat} {b : Bytes} {w : Nat} (hsc : sscan .lead 0 b = .plain w) :
    (plainLoop limit (b.drop w)).erase = spec limit b ∧
      ∀ s', plainLoop limit (b.drop w) = .need s' → Inv limit s' b := by
  rw [spec_plain hsc]
  unfold plainLoop plainS
  cases hn : nprintIdx (b.drop w) with
  | some i => exact ⟨split_erase _ _ _, fun s' hs' => absurd hs' (split_ne_need _ _ _ _)⟩
  | none => exact check_spec fun hl => .inr ⟨rfl, w, hsc, rfl, hn, hl⟩

/-- **Resumed scan = fresh scan of everything received.** -/
theorem feed_spec (limit : Nat) (s : State) (b c : Bytes) (h : Inv limit s b) :
    (feed limit s c).erase = spec limit (b ++ c) ∧ ∀ s', feed limit s c = .need s' → Inv limit s' (b ++ c) := by
  rcases h with ⟨hp, hdoc, hoff, hlen, st, hscan, habs⟩ | ⟨hp, w, hscan, hdoc, hnp, hlen⟩
  · -- suspended in the first loop
    have hsim := scanLoop_sim c b.reverse b.length s.cnt s.first st habs
    have happ := sscan_append_opened hscan c
    rw [Nat.zero_add] at happ
    simp only [feed, scanRound, hp, Bool.false_eq_true, if_false, hdoc, hoff, List.take_left', List.drop_left']
    generalize scanLoop b.reverse c b.length s.cnt s.first = out at hsim ⊢
    cases out with
    | closed o =>
      rw [spec_closed (happ.trans hsim)]
      exact ⟨split_erase _ _ _, fun s' hs' => absurd hs' (split_ne_need _ _ _ _)⟩
    | plainAt o =>
      have hdrop : (if o > 0 then (b ++ c).drop o else b ++ c) = (b ++ c).drop o := by cases o <;> rfl
      simp only [hdrop]
      exact plainLoop_spec (happ.trans hsim)
    | exhausted cnt' first' =>
      obtain ⟨st', hst, habs'⟩ := hsim
      have hsc := happ.trans hst
      rw [spec_opened hsc]
      exact check_spec fun hl => .inl ⟨rfl, rfl, rfl, hl, st', hsc, by rw [List.reverse_append]; exact habs'⟩
  · -- suspended in the plain-value loop
    have hb := (sscan_plain_bounds hscan).2
    have hsc := sscan_append_plain hscan c
    have hdrop : (b ++ c).drop w = b.drop w ++ c :=
      List.drop_append_of_le_length (Nat.le_of_lt (by rwa [Nat.zero_add] at hb))
    simp only [feed, hp, if_true, hdoc]
    exact hdrop ▸ plainLoop_spec hsc

/-- the raw JSON framer refines its byte-level spec -/
theorem refines (limit : Nat) : Refines init (feed limit) (spec limit) (Inv limit) :=
  ⟨inv_init limit, feed_spec limit⟩

/-- what the suspended generator holds is never longer than the limit -/
theorem inv_doc_le (limit : Nat) (s : State) (b : Bytes) (h : Inv limit s b) : s.doc.length ≤ limit := by
  rcases h with ⟨_, hdoc, _, hlen, _⟩ | ⟨_, w, _, _, _, hlen⟩
  · rw [hdoc]; exact hlen
  · exact hlen

theorem inv_nil_doc (limit : Nat) (s : State) (h : Inv limit s []) : s.doc = [] := by
  rcases h with ⟨_, hdoc, _⟩ | ⟨_, w, hscan, _⟩
  · exact hdoc
  · cases hscan

end JRaw
end EasyNet

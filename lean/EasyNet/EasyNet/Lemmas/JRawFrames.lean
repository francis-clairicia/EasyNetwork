/-
  Self-delimited documents of the raw JSON framer, incomplete tails, and the run over a stream of them.

  `IsFrame limit f`   (semantic) `f` is cut out exactly, whatever acceptable bytes follow, and no proper prefix of it
                      completes or is rejected.
  `Doc.ok limit d`    (decidable, syntactic) a sufficient criterion in terms of the scanner: an enclosure document that the
                      scanner closes exactly on its last byte, or a run of value bytes followed by one whitespace byte.
  `refRun_frames`     every chunking of `docs ++ tail` yields exactly the documents, in order, and retains the tail.

  "Acceptable bytes" (`goodRest`): nothing, or something that does not start with whitespace — `_split_partial_document`
  attaches whitespace that follows a document in the same buffer to that document, so with optional whitespace between
  documents the frames cut out are not the same under every chunking (they differ by where that whitespace goes).
-/
import EasyNet.Lemmas.JRawLaws
namespace EasyNet
namespace JRaw

def goodRest : Bytes → Bool
  | [] => true
  | c :: _ => !isWs c

theorem goodRest_append (g y : Bytes) (hg : goodRest g = true) (hne : g ≠ []) : goodRest (g ++ y) = true := by
  cases g with
  | nil => exact absurd rfl hne
  | cons c cs => exact hg

theorem goodRest_prefix (b x : Bytes) (h : goodRest (b ++ x) = true) : goodRest b = true := by
  cases b with
  | nil => rfl
  | cons c cs => exact h

structure IsFrame (limit : Nat) (f : Bytes) : Prop where
  ne : f ≠ []
  good : goodRest f = true
  done : ∀ x, goodRest x = true → spec limit (f ++ x) = .done f x
  need : ∀ b x, f = b ++ x → x ≠ [] → b ≠ [] → spec limit b = .need

/-- incomplete tail: every non-empty prefix is incomplete and within the limit -/
structure IsTail (limit : Nat) (t : Bytes) : Prop where
  good : goodRest t = true
  need : ∀ b x, t = b ++ x → b ≠ [] → spec limit b = .need

theorem isTail_nil (limit : Nat) : IsTail limit [] :=
  ⟨rfl, fun _ _ h hb => absurd (List.append_eq_nil_iff.mp h.symm).1 hb⟩

theorem wsRun_ws_good (w x : Bytes) (hw : w.all isWs = true) (hx : goodRest x = true) : wsRun (w ++ x) = w.length := by
  induction w with
  | nil =>
    cases x with
    | nil => rfl
    | cons c cs => simp only [goodRest, Bool.not_eq_true'] at hx; simp only [List.nil_append, wsRun, hx]; rfl
  | cons c cs ih =>
    simp only [List.all_cons, Bool.and_eq_true] at hw
    simp only [List.cons_append, wsRun, hw.1, if_true, ih hw.2, List.length_cons]

theorem splitS_ws (g w x : Bytes) (limit : Nat) (hg : g.length ≤ limit) (hne : g ≠ []) (hw : w.all isWs = true)
    (hx : goodRest x = true) : splitS (g ++ (w ++ x)) g.length limit = .done (g ++ w) x := by
  have hn : g.length + wsRun ((g ++ (w ++ x)).drop g.length) = (g ++ w).length := by
    rw [List.drop_left, wsRun_ws_good w x hw hx, List.length_append]
  have h0 : (g ++ w).length ≠ 0 := by
    rw [List.length_append]; have := List.length_pos_iff.mpr hne; omega
  rw [splitS_eq, if_neg (Nat.not_lt.mpr hg), hn, if_neg h0, ← List.append_assoc, List.take_left, List.drop_left]

theorem spec_need_of_opened {limit : Nat} {b : Bytes} {st : SSt} (h : sscan .lead 0 b = .opened st)
    (hlen : b.length ≤ limit) : spec limit b = .need := by
  rw [spec_opened h]; exact if_neg (Nat.not_lt.mpr hlen)

theorem isWs_not_value (w : UInt8) (h : isWs w = true) : isValueByte w = false := by
  simp only [isWs, Bool.or_eq_true, beq_iff_eq] at h
  rcases h with ((h | h) | h) | h <;> subst h <;> decide

theorem value_not_ws (c : UInt8) (h : isValueByte c = true) : isWs c = false := by
  cases hw : isWs c with
  | false => rfl
  | true => rw [isWs_not_value c hw] at h; cases h

theorem nprintIdx_value (v : Bytes) (hv : v.all isValueByte = true) : nprintIdx v = none :=
  List.findIdx?_eq_none_iff.mpr fun c hc => by rw [List.all_eq_true.mp hv c hc]; rfl

theorem nprintIdx_value_then (v : Bytes) (w : UInt8) (x : Bytes) (hv : v.all isValueByte = true)
    (hw : isValueByte w = false) : nprintIdx (v ++ w :: x) = some v.length := by
  rw [nprintIdx, List.findIdx?_append, ← nprintIdx, nprintIdx_value v hv, List.findIdx?_cons, hw]
  exact congrArg some (Nat.zero_add _)

theorem spec_need_of_value_prefix {limit : Nat} {b x : Bytes} (hp : sscan .lead 0 (b ++ x) = .plain 0)
    (hv : (b ++ x).all isValueByte = true) (hlen : (b ++ x).length ≤ limit) (hb : b ≠ []) : spec limit b = .need := by
  have hbl : 0 < b.length := List.length_pos_iff.mpr hb
  rw [List.length_append] at hlen
  rw [List.all_append, Bool.and_eq_true] at hv
  rcases sscan_prefix b x .lead 0 with ⟨st, _, hst⟩ | hpre
  · -- the scan cannot still be open after `b`: the value starts at index 0
    have := sscan_plain_bounds (hst.symm.trans hp); omega
  · rw [spec_plain (hpre.trans hp), List.drop_zero, plainS, nprintIdx_value b hv.1]
    exact if_neg (by omega)

inductive Doc where
  | encl (f : Bytes)                 -- object / array / string: the bytes
  | plain (v : Bytes) (w : UInt8)    -- plain value `v` and the whitespace byte that terminates it
  deriving Repr, DecidableEq

def Doc.bytes : Doc → Bytes
  | .encl f => f
  | .plain v w => v ++ [w]

/-- well delimited and within the limit -/
def Doc.ok (limit : Nat) : Doc → Prop
  | .encl f => sscan .lead 0 f = .closed f.length ∧ f.length ≤ limit ∧ goodRest f = true
  | .plain v w => v ≠ [] ∧ v.all isValueByte = true ∧ isWs w = true ∧ sscan .lead 0 v = .plain 0 ∧ v.length ≤ limit

instance (limit : Nat) (d : Doc) : Decidable (d.ok limit) := by
  cases d <;> unfold Doc.ok <;> infer_instance

/-- **the trailing-whitespace rule of `_split_partial_document`, exactly**: whitespace `w` that follows a well-delimited
    document in the same buffer (up to the next non-whitespace byte, or to the end of the buffer) is attached to the frame -/
theorem Doc.ws_attach (limit : Nat) (d : Doc) (hd : d.ok limit) (w x : Bytes) (hw : w.all isWs = true)
    (hx : goodRest x = true) : spec limit (d.bytes ++ w ++ x) = .done (d.bytes ++ w) x := by
  cases d with
  | encl f =>
    obtain ⟨hscan, hlen, _⟩ := hd
    rw [show (Doc.encl f).bytes = f from rfl, List.append_assoc, spec_closed (sscan_append_closed hscan _)]
    exact splitS_ws f w x limit hlen (ne_nil_of_closed hscan) hw hx
  | plain v t =>
    obtain ⟨hvne, hval, hws, hscan, hlen⟩ := hd
    simp only [Doc.bytes, List.append_assoc, List.cons_append, List.nil_append]
    rw [spec_plain (sscan_append_plain hscan _), List.drop_zero, plainS,
      nprintIdx_value_then v t _ hval (isWs_not_value t hws)]
    exact splitS_ws v (t :: w) x limit hlen hvne (by rw [List.all_cons, hws, hw]; rfl) hx

theorem prefix_of_concat {v b x : Bytes} {t : UInt8} (h : v ++ [t] = b ++ x) (hx : x ≠ []) : ∃ y, v = b ++ y := by
  rw [← List.dropLast_concat_getLast hx, ← List.append_assoc] at h
  exact ⟨_, (List.append_inj' h rfl).1⟩

theorem Doc.isFrame (limit : Nat) (d : Doc) (hd : d.ok limit) : IsFrame limit d.bytes := by
  have hdone : ∀ x, goodRest x = true → spec limit (d.bytes ++ x) = .done d.bytes x := fun x hx => by
    simpa only [List.append_nil] using d.ws_attach limit hd [] x rfl hx
  cases d with
  | encl f =>
    obtain ⟨hscan, hlen, hgood⟩ := hd
    refine ⟨ne_nil_of_closed hscan, hgood, hdone, fun b x hf hxne _ => ?_⟩
    change f = b ++ x at hf; subst hf
    rw [List.length_append] at hscan hlen
    have hxl : 0 < x.length := List.length_pos_iff.mpr hxne
    rcases sscan_prefix b x .lead 0 with ⟨st, hst, _⟩ | hpre
    · exact spec_need_of_opened hst (by omega)
    · -- the scan cannot end within `b`: it ends on the last byte of `b ++ x`
      have := sscan_closed_bounds (hpre.trans hscan); omega
  | plain v w =>
    obtain ⟨hvne, hval, hws, hscan, hlen⟩ := hd
    have hgood : goodRest v = true := by
      cases v with
      | nil => exact absurd rfl hvne
      | cons c cs =>
        rw [List.all_cons, Bool.and_eq_true] at hval
        rw [goodRest, value_not_ws c hval.1]; rfl
    refine ⟨List.append_ne_nil_of_left_ne_nil hvne _, goodRest_append v _ hgood hvne, hdone, fun b x hf hxne hbne => ?_⟩
    obtain ⟨y, rfl⟩ := prefix_of_concat hf hxne
    exact spec_need_of_value_prefix hscan hval hlen hbne

def isOpened : SOut → Bool
  | .opened _ => true
  | _ => false

/-- `t` does not start with whitespace, is within the limit, and is either an unfinished enclosure document or an
    unterminated run of value bytes -/
def TailOk (limit : Nat) (t : Bytes) : Prop :=
  goodRest t = true ∧ t.length ≤ limit ∧
    (isOpened (sscan .lead 0 t) = true ∨ (sscan .lead 0 t = .plain 0 ∧ t.all isValueByte = true))

instance (limit : Nat) (t : Bytes) : Decidable (TailOk limit t) := by unfold TailOk; infer_instance

theorem TailOk.isTail {limit : Nat} {t : Bytes} (h : TailOk limit t) : IsTail limit t := by
  obtain ⟨hgood, hlen, hcase⟩ := h
  refine ⟨hgood, fun b x htx hb => ?_⟩
  subst htx
  rcases hcase with ho | ⟨hp, hv⟩
  · cases hs : sscan .lead 0 (b ++ x) with
    | opened st =>
      rw [List.length_append] at hlen
      rcases sscan_prefix b x .lead 0 with ⟨st', hst, _⟩ | hpre
      · exact spec_need_of_opened hst (by omega)
      · exact spec_need_of_opened (hpre.trans hs) (by omega)
    | closed k => rw [hs] at ho; cases ho
    | plain w => rw [hs] at ho; cases ho
  · exact spec_need_of_value_prefix hp hv hlen hb

theorem IsTail.of_ok_or_nil {limit : Nat} {t : Bytes} (h : TailOk limit t ∨ t = []) : IsTail limit t :=
  h.elim TailOk.isTail fun h => h ▸ isTail_nil limit

section stream
variable {limit : Nat} {t : Bytes} {fs : List Bytes} (hfs : ∀ f ∈ fs, IsFrame limit f)
include hfs

theorem goodRest_stream (ht : goodRest t = true) : goodRest (fs.flatten ++ t) = true := by
  cases fs with
  | nil => exact ht
  | cons g gs =>
    have hg := hfs g List.mem_cons_self
    rw [List.flatten_cons, List.append_assoc]
    exact goodRest_append g _ hg.good hg.ne

theorem frames_nil_of_held {h : Bytes} (ht : goodRest t = true) (hh : h = [] ∨ spec limit h = .need)
    (hcat : h = fs.flatten ++ t) : fs = [] := by
  cases fs with
  | nil => rfl
  | cons g gs =>
    have hg := hfs g List.mem_cons_self
    rw [List.flatten_cons, List.append_assoc] at hcat
    rw [hcat, hg.done _ (goodRest_stream (fun f hf => hfs f (List.mem_cons_of_mem _ hf)) ht)] at hh
    rcases hh with h0 | hn
    · exact absurd (List.append_eq_nil_iff.mp h0).1 hg.ne
    · cases hn

end stream

theorem decodeW_prefix {limit : Nat} {t : Bytes} (ht : IsTail limit t) : ∀ (fs : List Bytes), (∀ f ∈ fs, IsFrame limit f) →
    ∀ (b y : Bytes), b ++ y = fs.flatten ++ t →
      ∃ fs1 fs2, fs = fs1 ++ fs2 ∧ (decodeW (spec limit) b).2 = fs1.map Item.frame ∧
        (decodeW (spec limit) b).1 ++ y = fs2.flatten ++ t := by
  intro fs
  induction fs with
  | nil => intro _ b y h; rw [decodeW_of_held (ht.need b y h.symm)]; exact ⟨[], [], rfl, rfl, h⟩
  | cons f fs ih =>
    intro hfs b y h
    have hf := hfs f List.mem_cons_self
    have hfs' : ∀ g ∈ fs, IsFrame limit g := fun g hg => hfs g (List.mem_cons_of_mem _ hg)
    rw [List.flatten_cons, List.append_assoc] at h
    by_cases hpre : f <+: b
    · -- `b` contains the first frame
      obtain ⟨c', rfl⟩ := hpre
      rw [List.append_assoc] at h
      have h2 := List.append_cancel_left h
      obtain ⟨fs1, fs2, e1, e2, e3⟩ := ih hfs' c' y h2
      have hc' := goodRest_prefix c' y (h2 ▸ goodRest_stream hfs' ht.good)
      rw [(spec_prog limit).decodeW_of_done (hf.done c' hc')]
      exact ⟨f :: fs1, fs2, by rw [e1]; rfl, by rw [e2]; rfl, e3⟩
    · -- `b` ends inside the first frame
      rcases List.append_eq_append_iff.mp h with ⟨a', h1, h2⟩ | ⟨c', h1, _⟩
      · have ha' : a' ≠ [] := fun h0 => hpre ⟨[], by rw [h1, h0, List.append_nil, List.append_nil]⟩
        rw [decodeW_of_held (hf.need b a' h1 ha')]
        exact ⟨[], f :: fs, rfl, rfl, by rw [List.flatten_cons, List.append_assoc]; exact h⟩
      · exact absurd ⟨c', h1.symm⟩ hpre

/-- **every chunking of a stream of frames + incomplete tail** yields exactly the frames, in order, and retains the tail -/
theorem refRun_frames {limit : Nat} {t : Bytes} (ht : IsTail limit t) :
    ∀ (chunks : List Bytes) (fs : List Bytes) (h : Bytes), (∀ f ∈ fs, IsFrame limit f) →
      h ++ chunks.flatten = fs.flatten ++ t → (h = [] ∨ spec limit h = .need) →
      refRun (spec limit) h chunks = (t, fs.map Item.frame) := by
  intro chunks
  induction chunks with
  | nil =>
    intro fs h hfs hcat hh
    rw [List.flatten_nil, List.append_nil] at hcat
    have hnil := frames_nil_of_held hfs ht.good hh hcat
    subst hnil
    rw [hcat]; rfl
  | cons c cs ih =>
    intro fs h hfs hcat _
    rw [List.flatten_cons, ← List.append_assoc] at hcat
    obtain ⟨fs1, fs2, rfl, e2, e3⟩ := decodeW_prefix ht fs hfs (h ++ c) cs.flatten hcat
    rw [refRun, (spec_prog limit).refRecv_eq_decodeW, e2, List.map_append,
      ih fs2 _ (fun f hf => hfs f (List.mem_append_right _ hf)) e3 ((spec_prog limit).decodeW_held _)]

section docs
variable (limit : Nat) (docs : List Doc) (hok : ∀ d ∈ docs, d.ok limit) (t : Bytes) (ht : IsTail limit t)
include hok ht

theorem refRun_docs (chunks : List Bytes) (hcut : chunks.flatten = (docs.map Doc.bytes).flatten ++ t) :
    refRun (spec limit) [] chunks = (t, docs.map (fun d => Item.frame d.bytes)) := by
  have hfs : ∀ f ∈ docs.map Doc.bytes, IsFrame limit f := fun f hf => by
    obtain ⟨d, hd, rfl⟩ := List.mem_map.mp hf
    exact d.isFrame limit (hok d hd)
  rw [refRun_frames ht chunks _ [] hfs hcut (.inl rfl), List.map_map]
  rfl

theorem decodeW_docs :
    decodeW (spec limit) ((docs.map Doc.bytes).flatten ++ t) = (t, docs.map (fun d => Item.frame d.bytes)) := by
  have := refRun_docs limit docs hok t ht [_] (List.append_nil _)
  rwa [refRun, refRun, (spec_prog limit).refRecv_eq_decodeW, List.append_nil] at this

end docs

/-- the consumer over the real framer model: same items -/
theorem run_docs (limit : Nat) (docs : List Doc) (hok : ∀ d ∈ docs, d.ok limit) (t : Bytes) (ht : IsTail limit t)
    (chunks : List Bytes) (hcut : chunks.flatten = (docs.map Doc.bytes).flatten ++ t) :
    (Consumer.run init (feed limit) Consumer.new chunks).2 = docs.map (fun d => Item.frame d.bytes) ∧
    (t = [] → Consumer.held (·.doc) (Consumer.run init (feed limit) Consumer.new chunks).1 = []) := by
  have hsim := Consumer.run_ref (refines limit) chunks Consumer.new [] .new
  rw [refRun_docs limit docs hok t ht chunks hcut] at hsim
  refine ⟨hsim.1, ?_⟩
  intro ht0
  subst ht0
  rcases hsim.2 with ⟨hfr, hbuf⟩ | ⟨s, hfr, _, hinv, _⟩
  · rw [Consumer.held, hfr]; exact hbuf
  · simp only [Consumer.held, hfr]
    exact inv_nil_doc limit s hinv

end JRaw
end EasyNet

/-
  A grammar of JSON texts as the encoder emits them (in fact a superset: any bytes may stand where JSON has numbers,
  literals, commas, colons and whitespace), and the fact that the scanner closes each such text exactly on its last byte.

    StrBody s      string content: any bytes except `"` and `\`, or a backslash followed by any one byte
                   (so `\\`, `\"`, and any run of backslashes before a quote, pair up)
    Bal s          container content, arbitrary nesting: filler bytes (anything but `"` `{` `}` `[` `]` `\`),
                   strings `"…"`, arrays `[…]`, objects `{…}`, in any order
    JText t        top-level text: string, array, object, or plain value (non-empty run of value bytes not starting
                   with `"` `{` `[` `}` `]`)
-/
import EasyNet.Lemmas.JRawFrames
namespace EasyNet
namespace JRaw

inductive StrBody : Bytes → Prop where
  | nil : StrBody []
  | char (c : UInt8) (rest : Bytes) : c ≠ QUOTE → c ≠ BSLASH → StrBody rest → StrBody (c :: rest)
  | esc (c : UInt8) (rest : Bytes) : StrBody rest → StrBody (BSLASH :: c :: rest)

def isFiller (c : UInt8) : Bool :=
  !(c == QUOTE || c == LBRACE || c == RBRACE || c == LBRACK || c == RBRACK || c == BSLASH)

inductive Bal : Bytes → Prop where
  | nil : Bal []
  | filler (c : UInt8) (rest : Bytes) : isFiller c = true → Bal rest → Bal (c :: rest)
  | str (s rest : Bytes) : StrBody s → Bal rest → Bal (QUOTE :: s ++ QUOTE :: rest)
  | arr (inner rest : Bytes) : Bal inner → Bal rest → Bal (LBRACK :: inner ++ RBRACK :: rest)
  | obj (inner rest : Bytes) : Bal inner → Bal rest → Bal (LBRACE :: inner ++ RBRACE :: rest)

def plainHead : Bytes → Bool
  | [] => false
  | c :: _ => !(c == QUOTE || c == LBRACE || c == LBRACK || c == RBRACE || c == RBRACK)

inductive JText : Bytes → Prop where
  | str (s : Bytes) : StrBody s → JText (QUOTE :: s ++ [QUOTE])
  | arr (inner : Bytes) : Bal inner → JText (LBRACK :: inner ++ [RBRACK])
  | obj (inner : Bytes) : Bal inner → JText (LBRACE :: inner ++ [RBRACE])
  | plain (v : Bytes) : v.all isValueByte = true → plainHead v = true → JText v

/-- a group (opening byte, content over which `st₁` is stable, closing byte that leads back to `st`), then bytes over which
    `st` is stable: strings, arrays and objects inside a container alike -/
theorem sscan_group {st st₁ : SSt} {o c : UInt8} {inner rest : Bytes} (ho : step st o = .cont st₁)
    (hc : step st₁ c = .cont st) (hin : ∀ off, sscan st₁ off inner = .opened st₁)
    (hr : ∀ off, sscan st off rest = .opened st) (off : Nat) :
    sscan st off (o :: inner ++ c :: rest) = .opened st := by
  simp only [List.cons_append, sscan, ho]
  rw [sscan_append_opened (hin _)]
  simp only [sscan, hc, hr]

theorem sscan_lead_group {st₁ : SSt} {o c : UInt8} {inner : Bytes} (ho : step .lead o = .cont st₁)
    (hc : step st₁ c = .close) (hin : ∀ off, sscan st₁ off inner = .opened st₁) :
    sscan .lead 0 (o :: inner ++ [c]) = .closed (o :: inner ++ [c]).length := by
  simp only [List.cons_append, sscan, ho]
  rw [sscan_append_opened (hin _)]
  simp only [sscan, hc, List.length_cons, List.length_append, List.length_nil, Nat.zero_add, Nat.add_comm 1]

theorem strBody_scan {s : Bytes} (hs : StrBody s) (k : UInt8) (nc ns : Int) :
    ∀ off, sscan (.encl k true nc ns false) off s = .opened (.encl k true nc ns false) := by
  induction hs with
  | nil => intro off; rfl
  | char c r h1 h2 _ ih =>
    intro off
    simp only [sscan, step_other (not_quote_and h1 _) (.inl rfl), beq_eq_false_iff_ne.mpr h2, Bool.false_and, ih]
  | esc c r _ ih =>
    intro off
    simp only [sscan, step_other (ch := BSLASH) (esc := false) (by decide) (.inl rfl),
      step_other (ch := c) (esc := true) (Bool.and_false _) (.inl rfl), beq_self_eq_true, Bool.not_false, Bool.and_self,
      Bool.not_true, Bool.and_false, ih]

theorem step_filler (k : UInt8) (nc ns : Int) {c : UInt8} (hc : isFiller c = true) :
    step (.encl k false nc ns false) c = .cont (.encl k false nc ns false) := by
  simp only [isFiller, Bool.not_eq_true', Bool.or_eq_false_iff, beq_eq_false_iff_ne] at hc
  obtain ⟨⟨⟨⟨⟨e1, e2⟩, e3⟩, e4⟩, e5⟩, e6⟩ := hc
  rw [step_other (not_quote_and e1 _) (.inr ⟨e2, e4, e3, e5⟩), beq_eq_false_iff_ne.mpr e6]; rfl

/-- balanced content never closes the enclosing container: the count of the first enclosure stays positive because
    nested groups only raise the counts -/
theorem bal_scan {s : Bytes} (hs : Bal s) (k : UInt8) : ∀ {nc ns : Int}, 0 < cntOf k false nc ns →
    ∀ off, sscan (.encl k false nc ns false) off s = .opened (.encl k false nc ns false) := by
  induction hs with
  | nil => intros; rfl
  | filler c r hc _ ih =>
    intro nc ns hpos off
    simp only [sscan, step_filler k nc ns hc, ih hpos]
  | str b r hb _ ih =>
    intro nc ns hpos off
    have hpos' : 0 < cntOf k true nc ns :=
      Int.lt_of_lt_of_le hpos (cntOf_mono k (fun h => nomatch h) (Int.le_refl _) (Int.le_refl _))
    exact sscan_group (by rw [step_quote]; exact post_cont hpos') (by rw [step_quote]; exact post_cont hpos)
      (strBody_scan hb k nc ns) (ih hpos) off
  | arr inner r _ _ ih1 ih2 =>
    intro nc ns hpos off
    have hpos' : 0 < cntOf k false nc (ns + 1) :=
      Int.lt_of_lt_of_le hpos (cntOf_mono k id (Int.le_refl _) (by omega))
    exact sscan_group (by rw [step_lbrack]; exact post_cont hpos')
      (by rw [step_rbrack, Int.add_sub_cancel]; exact post_cont hpos) (ih1 hpos') (ih2 hpos) off
  | obj inner r _ _ ih1 ih2 =>
    intro nc ns hpos off
    have hpos' : 0 < cntOf k false (nc + 1) ns :=
      Int.lt_of_lt_of_le hpos (cntOf_mono k id (by omega) (Int.le_refl _))
    exact sscan_group (by rw [step_lbrace]; exact post_cont hpos')
      (by rw [step_rbrace, Int.add_sub_cancel]; exact post_cont hpos) (ih1 hpos') (ih2 hpos) off

/-- the document that `produce` makes of a text: the text itself if it starts an enclosure, else the text as a plain value
    terminated by the newline -/
def docOf (t : Bytes) : Doc :=
  match t with
  | c :: _ => if c == LBRACE || c == LBRACK || c == QUOTE then .encl t else .plain t 10
  | [] => .plain t 10

theorem docOf_bytes (t : Bytes) : (docOf t).bytes = produce t := by
  cases t with
  | nil => rfl
  | cons c cs => simp only [docOf, produce]; split <;> rfl

/-- **the scanner closes every text of the grammar exactly on its last byte** (string / array / object), resp. recognises a
    plain value at its first byte; so what the producer emits for it is a well-delimited document -/
theorem docOf_ok (limit : Nat) {t : Bytes} (ht : JText t) (hlen : t.length ≤ limit) : (docOf t).ok limit := by
  cases ht with
  | str s hs =>
    exact ⟨sscan_lead_group (st₁ := .encl QUOTE true 0 0 false) rfl (by rw [step_quote]; exact post_close (by decide))
      (strBody_scan hs _ _ _), hlen, rfl⟩
  | arr inner hb =>
    exact ⟨sscan_lead_group (st₁ := .encl LBRACK false 0 1 false) (by decide)
      (by rw [step_rbrack]; exact post_close (by decide)) (bal_scan hb _ (by decide)), hlen, rfl⟩
  | obj inner hb =>
    exact ⟨sscan_lead_group (st₁ := .encl LBRACE false 1 0 false) (by decide)
      (by rw [step_rbrace]; exact post_close (by decide)) (bal_scan hb _ (by decide)), hlen, rfl⟩
  | plain _ hv hh =>
    cases t with
    | nil => cases hh
    | cons c cs =>
      simp only [plainHead, Bool.not_eq_true', Bool.or_eq_false_iff] at hh
      obtain ⟨⟨⟨⟨e1, e2⟩, e3⟩, e4⟩, e5⟩ := hh
      have hvc : isValueByte c = true := by simp only [List.all_cons, Bool.and_eq_true] at hv; exact hv.1
      simp only [docOf, e1, e2, e3, Bool.or_self, Bool.false_eq_true, if_false]
      refine ⟨List.cons_ne_nil _ _, hv, by decide, ?_, hlen⟩
      simp only [sscan, step, e1, e2, e3, e4, e5, value_not_ws c hvc, Bool.false_eq_true, if_false]

end JRaw
end EasyNet

/-
  Laws of the raw JSON byte-level spec.

  `JRaw.spec` does NOT satisfy `SpecLaws.done_append` (ChunkIndep.lean): `_split_partial_document` attaches to a complete
  document whatever whitespace follows it *in the same buffer*, so the frame cut out depends on how much whitespace has
  already arrived.  What holds unconditionally is progress (`ProgLaws`), from which the fuel/unfolding facts about the
  reference decoder follow (ChunkIndep.lean), and with it the bound on what the copying consumer retains (`run_held_le`).
-/
import EasyNet.Lemmas.JRaw
import EasyNet.Lemmas.ChunkIndep
namespace EasyNet

namespace JRaw

theorem wsRun_le (d : Bytes) : wsRun d ≤ d.length := by
  induction d with
  | nil => exact Nat.le_refl _
  | cons x xs ih => simp only [wsRun]; split <;> simp <;> omega

theorem splitS_progress {doc : Bytes} (hdoc : doc ≠ []) (c limit : Nat) {it : Item} {r : Bytes}
    (h : (splitS doc c limit).out = some (it, r)) : r.length < doc.length := by
  have hpos : 0 < doc.length := List.length_pos_iff.mpr hdoc
  rw [splitS_eq] at h
  split at h
  · cases h
    rw [List.length_drop]; omega
  split at h
  · cases h
    exact hpos
  · cases h
    rw [List.length_drop]; omega

theorem check_progress {n limit : Nat} {it : Item} {r : Bytes}
    (h : (if n > limit then SRes.fail [] else .need).out = some (it, r)) : r.length < n := by
  split at h
  · next hl =>
    cases h
    exact Nat.lt_of_le_of_lt (Nat.zero_le _) hl
  · cases h

theorem plainS_progress {d : Bytes} (hd : d ≠ []) (limit : Nat) {it : Item} {r : Bytes}
    (h : (plainS limit d).out = some (it, r)) : r.length < d.length := by
  unfold plainS at h
  cases hn : nprintIdx d with
  | some i => rw [hn] at h; exact splitS_progress hd i limit h
  | none => rw [hn] at h; exact check_progress h

theorem spec_progress (limit : Nat) {b r : Bytes} {it : Item} (h : (spec limit b).out = some (it, r)) :
    r.length < b.length := by
  cases hs : sscan .lead 0 b with
  | opened st => rw [spec_opened hs] at h; exact check_progress h
  | closed k =>
    rw [spec_closed hs] at h
    exact splitS_progress (ne_nil_of_closed hs) k limit h
  | plain w =>
    rw [spec_plain hs] at h
    have hb := sscan_plain_bounds hs
    have hlen : (b.drop w).length = b.length - w := List.length_drop
    have := plainS_progress (List.ne_nil_of_length_pos (by omega)) limit h
    omega

/-- **progress**: a delivered document or a size error leaves strictly fewer bytes, for EVERY byte string -/
theorem spec_prog (limit : Nat) : ProgLaws (spec limit) :=
  ⟨fun _ d _ h => spec_progress limit (it := .frame d) (by rw [h]; rfl),
    fun _ _ h => spec_progress limit (it := .limit) (by rw [h]; rfl)⟩

theorem feed_progress (limit : Nat) (s : State) (b c : Bytes) (h : Inv limit s b) :
    (∀ d r, feed limit s c = .done d r → r.length < (b ++ c).length) ∧
    (∀ r, feed limit s c = .fail r → r.length < (b ++ c).length) := by
  have e := (feed_spec limit s b c h).1
  exact ⟨fun d r hf => (spec_prog limit).progress_done _ d r (by rw [← e, hf]; rfl),
    fun r hf => (spec_prog limit).progress_fail _ r (by rw [← e, hf]; rfl)⟩

/-- **after every read the consumer retains at most `limit` bytes**, whatever was received and however it was cut -/
theorem run_held_le (limit : Nat) (chunks : List Bytes) :
    (Consumer.held (·.doc) (Consumer.run init (feed limit) Consumer.new chunks).1).length ≤ limit := by
  have hsim := Consumer.run_ref (refines limit) chunks Consumer.new [] .new
  have hnil := Consumer.run_buffer_nil (refines limit) (spec_prog limit) chunks Consumer.new rfl
  rcases hsim.2 with ⟨hfr, _⟩ | ⟨s, hfr, _, hinv, _⟩
  · rw [Consumer.held, hfr, hnil]; exact Nat.zero_le _
  · simp only [Consumer.held, hfr]
    exact inv_doc_le limit s _ hinv

end JRaw
end EasyNet

/-
  Byte-level reference semantics of the raw JSON framer: "scan the accumulated bytes once from the start".
  Apart from `splitS` (the model's `split` with the spec's result type) nothing here mirrors Python statements; this
  is the *spec* the stateful model `JRaw.feed` is proved to refine (Lemmas/JRaw.lean).  The scanner is a one-pass
  fold with a small explicit state:

    SSt.lead                         only whitespace seen so far
    SSt.encl k inStr nc ns esc       the first enclosure opened was `k` (one of `"`, `{`, `[`); `inStr` = inside a JSON string;
                                     `nc` / `ns` = net count of braces / square brackets; `esc` = the run of backslashes that
                                     ends here has odd length (running parity — the model looks back instead)
-/
import EasyNet.Model.JRaw
import EasyNet.Model.Spec
namespace EasyNet
namespace JRaw

inductive SSt where
  | lead
  | encl (k : UInt8) (inStr : Bool) (nc ns : Int) (esc : Bool)
  deriving Repr, DecidableEq

inductive StepRes where
  | cont (st : SSt)
  | close            -- the document ends with this byte
  | plain            -- this byte starts a plain value
  deriving Repr, DecidableEq

/-- the counter of the first enclosure -/
def cntOf (k : UInt8) (inStr : Bool) (nc ns : Int) : Int :=
  if k == QUOTE then (if inStr then 1 else 0) else if k == LBRACE then nc else ns

/-- after a quote / bracket event: is the first enclosure closed? -/
def post (k : UInt8) (inStr : Bool) (nc ns : Int) : StepRes :=
  if cntOf k inStr nc ns ≤ 0 then .close else .cont (.encl k inStr nc ns false)

def step : SSt → UInt8 → StepRes
  | .lead, ch =>
    if ch == QUOTE then .cont (.encl QUOTE true 0 0 false)
    else if ch == LBRACE then .cont (.encl LBRACE false 1 0 false)
    else if ch == LBRACK then .cont (.encl LBRACK false 0 1 false)
    else if ch == RBRACE then .close
    else if ch == RBRACK then .close
    else if isWs ch then .cont .lead
    else .plain
  | .encl k inStr nc ns esc, ch =>
    if ch == QUOTE && !esc then post k (!inStr) nc ns
    else if inStr then .cont (.encl k inStr nc ns (ch == BSLASH && !esc))
    else if ch == LBRACE then post k inStr (nc + 1) ns
    else if ch == LBRACK then post k inStr nc (ns + 1)
    else if ch == RBRACE then post k inStr (nc - 1) ns
    else if ch == RBRACK then post k inStr nc (ns - 1)
    else .cont (.encl k inStr nc ns (ch == BSLASH && !esc))

inductive SOut where
  | opened (st : SSt)         -- all bytes scanned, document not complete
  | closed (consumed : Nat)   -- document complete: `consumed` bytes (absolute index one past the closing byte)
  | plain (w : Nat)           -- a plain value starts at absolute index `w`
  deriving Repr, DecidableEq

def sscan : SSt → Nat → Bytes → SOut
  | st, _, [] => .opened st
  | st, off, ch :: rest =>
    match step st ch with
    | .cont st' => sscan st' (off + 1) rest
    | .close => .closed (off + 1)
    | .plain => .plain off

/-- `_split_partial_document` as a function to `SRes` -/
def splitS (doc : Bytes) (consumed limit : Nat) : SRes :=
  if consumed > limit then .fail (doc.drop consumed)
  else
    if consumed + wsRun (doc.drop consumed) == doc.length then .done doc []
    else
      if (doc.take (consumed + wsRun (doc.drop consumed))).isEmpty then
        .done (doc.drop (consumed + wsRun (doc.drop consumed))) []
      else .done (doc.take (consumed + wsRun (doc.drop consumed))) (doc.drop (consumed + wsRun (doc.drop consumed)))

/-- plain value: the bytes from the first non-whitespace byte on -/
def plainS (limit : Nat) (d : Bytes) : SRes :=
  match nprintIdx d with
  | none => if d.length > limit then .fail [] else .need
  | some i => splitS d i limit

/-- **the byte-level spec**: what the framer says about the accumulated bytes `b` -/
def spec (limit : Nat) (b : Bytes) : SRes :=
  match sscan .lead 0 b with
  | .opened _ => if b.length > limit then .fail [] else .need
  | .closed k => splitS b k limit
  | .plain w => plainS limit (b.drop w)

section step
variable {k : UInt8} {i : Bool} {nc ns : Int} {esc : Bool}

theorem step_quote : step (.encl k i nc ns false) QUOTE = post k (!i) nc ns := by simp [step]

theorem step_lbrace : step (.encl k false nc ns esc) LBRACE = post k false (nc + 1) ns := by
  simp [step, QUOTE, LBRACE]

theorem step_lbrack : step (.encl k false nc ns esc) LBRACK = post k false nc (ns + 1) := by
  simp [step, QUOTE, LBRACE, LBRACK]

theorem step_rbrace : step (.encl k false nc ns esc) RBRACE = post k false (nc - 1) ns := by
  simp [step, QUOTE, LBRACE, LBRACK, RBRACE]

theorem step_rbrack : step (.encl k false nc ns esc) RBRACK = post k false nc (ns - 1) := by
  simp [step, QUOTE, LBRACE, LBRACK, RBRACE, RBRACK]

theorem not_quote_and {ch : UInt8} (h : ch ≠ QUOTE) (e : Bool) : (ch == QUOTE && e) = false := by
  rw [beq_eq_false_iff_ne.mpr h]; rfl

theorem step_other {ch : UInt8} (hq : (ch == QUOTE && !esc) = false)
    (h : i = true ∨ (ch ≠ LBRACE ∧ ch ≠ LBRACK ∧ ch ≠ RBRACE ∧ ch ≠ RBRACK)) :
    step (.encl k i nc ns esc) ch = .cont (.encl k i nc ns (ch == BSLASH && !esc)) := by
  rcases h with rfl | ⟨h1, h2, h3, h4⟩
  · simp only [step, hq, Bool.false_eq_true, if_false, if_true]
  · simp only [step, hq, beq_iff_eq, h1, h2, h3, h4, Bool.false_eq_true, if_false, ite_self]

end step

theorem post_cont {k : UInt8} {i : Bool} {nc ns : Int} (h : 0 < cntOf k i nc ns) :
    post k i nc ns = .cont (.encl k i nc ns false) :=
  if_neg (Int.not_le.mpr h)

theorem post_close {k : UInt8} {i : Bool} {nc ns : Int} (h : cntOf k i nc ns ≤ 0) : post k i nc ns = .close :=
  if_pos h

theorem cntOf_mono (k : UInt8) {i i' : Bool} {nc nc' ns ns' : Int} (hi : i = true → i' = true) (hc : nc ≤ nc')
    (hs : ns ≤ ns') : cntOf k i nc ns ≤ cntOf k i' nc' ns' := by
  unfold cntOf
  by_cases h1 : (k == QUOTE) = true
  · rw [if_pos h1, if_pos h1]
    cases i
    · cases i' <;> decide
    · rw [hi rfl]; exact Int.le_refl _
  · rw [if_neg h1, if_neg h1]
    by_cases h2 : (k == LBRACE) = true
    · rwa [if_pos h2, if_pos h2]
    · rwa [if_neg h2, if_neg h2]

theorem sscan_append (b c : Bytes) : ∀ (st : SSt) (off : Nat),
    sscan st off (b ++ c) = match sscan st off b with
      | .opened st' => sscan st' (off + b.length) c
      | r => r := by
  induction b with
  | nil => intro st off; rfl
  | cons x xs ih =>
    intro st off
    simp only [List.cons_append, sscan]
    cases step st x with
    | cont st' => simp only [ih st' (off + 1), List.length_cons, Nat.add_assoc, Nat.add_comm 1]
    | close => rfl
    | plain => rfl

section
variable {st : SSt} {off : Nat} {b c : Bytes}

theorem sscan_append_opened {st' : SSt} (h : sscan st off b = .opened st') (c : Bytes) :
    sscan st off (b ++ c) = sscan st' (off + b.length) c := by rw [sscan_append, h]

theorem sscan_append_closed {k : Nat} (h : sscan st off b = .closed k) (c : Bytes) :
    sscan st off (b ++ c) = .closed k := by rw [sscan_append, h]

theorem sscan_append_plain {w : Nat} (h : sscan st off b = .plain w) (c : Bytes) :
    sscan st off (b ++ c) = .plain w := by rw [sscan_append, h]

theorem sscan_bounds (b : Bytes) : ∀ (st : SSt) (off : Nat),
    (∀ k, sscan st off b = .closed k → off < k ∧ k ≤ off + b.length) ∧
    (∀ w, sscan st off b = .plain w → off ≤ w ∧ w < off + b.length) := by
  induction b with
  | nil => intro st off; constructor <;> (intro _ h; cases h)
  | cons x xs ih =>
    intro st off
    simp only [sscan, List.length_cons]
    cases step st x with
    | cont st' =>
      have := ih st' (off + 1)
      exact ⟨fun k h => by have := this.1 k h; omega, fun w h => by have := this.2 w h; omega⟩
    | close => exact ⟨fun k h => by cases h; omega, fun w h => (nomatch h)⟩
    | plain => exact ⟨fun k h => (nomatch h), fun w h => by cases h; omega⟩

theorem sscan_closed_bounds {k : Nat} (h : sscan st off b = .closed k) : off < k ∧ k ≤ off + b.length :=
  (sscan_bounds b st off).1 k h

theorem sscan_plain_bounds {w : Nat} (h : sscan st off b = .plain w) : off ≤ w ∧ w < off + b.length :=
  (sscan_bounds b st off).2 w h

theorem ne_nil_of_closed {k : Nat} (h : sscan st off b = .closed k) : b ≠ [] :=
  fun h0 => by rw [h0] at h; cases h

theorem sscan_prefix (b c : Bytes) (st : SSt) (off : Nat) :
    (∃ st', sscan st off b = .opened st' ∧ sscan st off (b ++ c) = sscan st' (off + b.length) c) ∨
    sscan st off b = sscan st off (b ++ c) := by
  rw [sscan_append]
  cases sscan st off b with
  | opened s => exact Or.inl ⟨s, rfl, rfl⟩
  | closed k => exact Or.inr rfl
  | plain w => exact Or.inr rfl

end

theorem splitS_eq (doc : Bytes) (c limit : Nat) :
    splitS doc c limit =
      if limit < c then .fail (doc.drop c)
      else if c + wsRun (doc.drop c) = 0 then .done doc []
      else .done (doc.take (c + wsRun (doc.drop c))) (doc.drop (c + wsRun (doc.drop c))) := by
  unfold splitS
  generalize c + wsRun (doc.drop c) = n
  by_cases h1 : limit < c
  · rw [if_pos h1, if_pos h1]
  rw [if_neg h1, if_neg h1]
  cases n with
  | zero => cases doc <;> rfl
  | succ n =>
    rw [if_neg (Nat.succ_ne_zero n)]
    by_cases h2 : n + 1 = doc.length
    · rw [if_pos (by rw [h2]; exact beq_self_eq_true _), h2, List.take_length, List.drop_length]
    · rw [if_neg (by simpa using h2)]
      cases doc <;> rfl

theorem splitS_ne_need (doc : Bytes) (c limit : Nat) : splitS doc c limit ≠ .need := by
  rw [splitS_eq]
  split
  · nofun
  split
  · nofun
  · nofun

theorem splitS_fail_iff (doc : Bytes) (c limit : Nat) : (∃ r, splitS doc c limit = .fail r) ↔ c > limit := by
  rw [splitS_eq]
  split
  · next h1 => exact ⟨fun _ => h1, fun _ => ⟨_, rfl⟩⟩
  · next h1 =>
    refine ⟨fun ⟨r, h⟩ => ?_, fun h => absurd h h1⟩
    split at h
    · cases h
    · cases h

section spec
variable {limit : Nat} {b : Bytes}

theorem spec_opened {st : SSt} (h : sscan .lead 0 b = .opened st) :
    spec limit b = if b.length > limit then .fail [] else .need := by simp only [spec, h]

theorem spec_closed {k : Nat} (h : sscan .lead 0 b = .closed k) : spec limit b = splitS b k limit := by
  simp only [spec, h]

theorem spec_plain {w : Nat} (h : sscan .lead 0 b = .plain w) : spec limit b = plainS limit (b.drop w) := by
  simp only [spec, h]

end spec

end JRaw
end EasyNet

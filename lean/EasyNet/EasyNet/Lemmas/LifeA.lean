/-
  C18 — inductive invariants of the asynchronous server machine `Life.A` (Model/Life.lean), for any family of callers,
  any programs, any schedule.  Lemmas/LifeStep.lean says how the proof is built.
-/
import EasyNet.Model.Life
import EasyNet.Lemmas.LifeStep
namespace EasyNet.Life.A

theorem upd_self (cs : Nat → Caller) (w : Bool) (a : Nat) (c : Caller) : upd cs w a c a = c := by simp [upd]

theorem upd_other (cs : Nat → Caller) (w : Bool) (a : Nat) (c : Caller) (j : Nat) (h : j ≠ a) :
    upd cs w a c j = if w then wake (cs j) else cs j := by simp [upd, h]

theorem wake_pc (c : Caller) : (wake c).pc = match c.pc with | .dWait g => .dWoken g | p => p := by
  unfold wake; split <;> simp_all

theorem wake_inServe (c : Caller) : (wake c).pc.inServe = c.pc.inServe := by
  unfold wake; split <;> simp [*, Pc.inServe]

def dead (t : TaskSt) : Prop := t = .none ∨ t = .dying ∨ t = .done

theorem kill_cases (t : TaskSt) : kill t = .none ∨ kill t = .dying ∨ kill t = .done := by cases t <;> simp [kill]
theorem kill_none : kill .none = .none := rfl
theorem kill_dying : kill .dying = .dying := rfl
theorem kill_done : kill .done = .done := rfl

def Pc.holdsLock : Pc → Bool
  | .cTasks _ | .cLs => true
  | _ => false

def Pc.holdsGuard : Pc → Bool
  | .sInit | .sStart | .cTasks _ | .cLs => true
  | _ => false

structure GI (g : G) : Prop where
  shut : g.isShutdown = true ↔ g.runner = none
  idle : g.runner = none → g.tasks = .none ∧ g.listed = false ∧ g.runScope = false
  cdone : g.closeDone = true → g.factoryCb = false ∧ g.lsOpen = false
  lsv : g.factoryCb = true → g.servers = true → g.lsOpen = true

def CI (j : Nat) (g : G) (c : Caller) : Prop :=
  (c.pc.inServe = true ↔ g.runner = some j) ∧
  (c.pc.holdsLock = true ↔ g.closeLock = some j) ∧
  (c.pc.holdsGuard = true ↔ g.guard = some j) ∧
  (match c.pc with
   | .idle => c.ext = false
   | .sAct => g.facScope = true ∧ (g.factoryCb = false → g.facCancel = true) ∧ g.tasks = .none ∧ g.listed = false ∧ g.runScope = true
   | .sFac => g.facScope = true ∧ (g.factoryCb = false → g.facCancel = true) ∧ g.tasks = .none ∧ g.listed = false ∧ g.runScope = true
   | .sInit => g.tasks = .none ∧ g.listed = false ∧ g.runScope = true
   | .sStart => (g.tasks = .starting ∨ g.tasks = .up) ∧ g.listed = false ∧ g.runScope = true
   | .sSleep => g.runScope = true
   | .sTg => (g.tasks = .none ∨ g.tasks = .dying ∨ g.tasks = .done) ∧ g.clientsDying = true
   | .sQuit => g.tasks = .none ∧ g.listed = false
   | .dWait n => n = g.gen ∧ g.isShutdown = false ∧ (g.runCancel = true ∨ g.runScope = false)
   | .dWoken n => n ≤ g.gen ∧ (n = g.gen → g.isShutdown = true)
   | .cLock => True
   | .cTasks w => g.factoryCb = false ∧ (w = true → (g.tasks = .none ∨ g.tasks = .dying ∨ g.tasks = .done))
   | .cLs => g.factoryCb = false ∧ g.lsOpen = false)

structure Inv (s : State) : Prop where
  gi : GI s.g
  ci : ∀ j, CI j s.g (s.cs j)

theorem Inv.quiet {s : State} (I : Inv s) (h : s.g.isShutdown = true) :
    s.g.runner = none ∧ s.g.tasks = .none ∧ s.g.listed = false ∧ serving s.g = false ∧
      ∀ j, (s.cs j).pc.inServe = false :=
  have hr := I.gi.shut.mp h
  have ⟨ht, hl, _⟩ := I.gi.idle hr
  ⟨hr, ht, hl, by simp [serving, hl], fun j => Bool.eq_false_iff.mpr fun h => nomatch hr.symm.trans ((I.ci j).1.mp h)⟩

theorem Inv.one_runner {s : State} {i j : Nat} (I : Inv s) (hi : (s.cs i).pc.inServe = true)
    (hj : (s.cs j).pc.inServe = true) : i = j :=
  Option.some.inj (((I.ci i).1.mp hi).symm.trans ((I.ci j).1.mp hj))

theorem inv_init (progs : Nat → List Op) : Inv (State.init progs) := by
  refine ⟨⟨?_, ?_, ?_, ?_⟩, fun j => ?_⟩ <;> simp [State.init, G.init, CI, Caller.init, Pc.inServe, Pc.holdsLock, Pc.holdsGuard]

section Preservation
variable {i j k : Nat} {g0 g1 g : G} {c0 c1 c : Caller} {w : Bool} {r : Res}

/-- the run has been told to stop, or is past its main sleep: `is_shutdown` will be set without further help -/
def Ending (g : G) : Prop := g.runCancel = true ∨ g.runScope = false

structure Frame (i : Nat) (w : Bool) (g0 g : G) : Prop
    extends GI g, EventStep w g0.gen g.gen g0.isShutdown g.isShutdown (Ending g0) (Ending g) where
  runner : OwnerStep i g0.runner g.runner
  closeLock : OwnerStep i g0.closeLock g.closeLock
  guard : OwnerStep i g0.guard g.guard
  /-- scopes and task list belong to the caller inside serve_forever; others at most cancel its factory scope (by a
      server_close), and its listener task only runs, dies, or is cancelled by a server_close, which needs the guard -/
  run : Guarded i g0.runner
    (g.runScope = g0.runScope ∧ g.listed = g0.listed ∧ g.facScope = g0.facScope ∧ g.clientsDying = g0.clientsDying ∧
      (g0.facScope = true → (g0.factoryCb = false → g0.facCancel = true) → g.factoryCb = false → g.facCancel = true) ∧
      (g0.tasks = .none → g.tasks = .none) ∧ (dead g0.tasks → dead g.tasks) ∧
      Guarded i g0.guard (g0.tasks = .starting ∨ g0.tasks = .up → g.tasks = .starting ∨ g.tasks = .up))
  /-- while somebody holds the close guard of a closed server nothing re-opens the listeners or starts a listener task -/
  hold : Guarded i g0.guard (g0.factoryCb = false →
    g.factoryCb = false ∧ (g0.lsOpen = false → g.lsOpen = false) ∧ (dead g0.tasks → dead g.tasks))

theorem Frame.refl (i : Nat) (G0 : GI g) : Frame i false g g :=
  { G0 with
    runner := .same, closeLock := .same, guard := .same
    run := .of ⟨rfl, rfl, rfl, rfl, fun _ h => h, id, id, .of id⟩, hold := .of fun h => ⟨h, id, id⟩
    gen := ⟨Nat.le_refl _, fun _ => id⟩, ev := fun h => ⟨rfl, h, id⟩ }

theorem CI.stable (F : Frame i w g0 g) (hij : j ≠ i) (C : CI j g0 c) (hw : ∀ n, c.pc = .dWait n → w = false) :
    CI j g c := by
  obtain ⟨b1, b2, b3, b4⟩ := C
  refine ⟨F.runner.own hij b1, F.closeLock.own hij b2, F.guard.own hij b3, ?_⟩
  have run := fun h => F.run.of_owner hij (b1.mp h)
  have hold := fun h => F.hold.of_owner hij (b3.mp h)
  rcases c with ⟨prog, pc, ext, res⟩
  cases pc with
  | idle => exact b4
  | sAct | sFac =>
    have ⟨rs, ls, fs, _, fc, tn, _⟩ := run rfl
    exact ⟨fs.trans b4.1, fc b4.1 b4.2.1, tn b4.2.2.1, ls.trans b4.2.2.2.1, rs.trans b4.2.2.2.2⟩
  | sInit =>
    have ⟨rs, ls, _, _, _, tn, _⟩ := run rfl
    exact ⟨tn b4.1, ls.trans b4.2.1, rs.trans b4.2.2⟩
  | sStart =>
    have ⟨rs, ls, _, _, _, _, _, ta⟩ := run rfl
    exact ⟨ta.of_owner hij (b3.mp rfl) b4.1, ls.trans b4.2.1, rs.trans b4.2.2⟩
  | sSleep => exact (run rfl).1.trans b4
  | sTg =>
    have ⟨_, _, _, cd, _, _, td, _⟩ := run rfl
    exact ⟨td b4.1, cd.trans b4.2⟩
  | sQuit =>
    have ⟨_, ls, _, _, _, tn, _⟩ := run rfl
    exact ⟨tn b4.1, ls.trans b4.2⟩
  | dWait n =>
    cases hw n rfl
    exact F.toEventStep.waiting b4
  | dWoken n => exact F.toEventStep.woken b4
  | cLock => trivial
  | cTasks t => exact ⟨(hold rfl b4.1).1, fun e => (hold rfl b4.1).2.2 (b4.2 e)⟩
  | cLs => exact ⟨(hold rfl b4.1).1, (hold rfl b4.1).2.1 b4.2⟩

theorem CI.frame (F : Frame i w g0 g) (hij : j ≠ i) (C : CI j g0 c) : CI j g (if w then wake c else c) := by
  cases w
  · exact C.stable F hij fun _ _ => rfl
  · show CI j g (wake c)
    unfold wake
    split
    · next n hp =>
      obtain ⟨b1, b2, b3, b4⟩ := C
      simp only [hp] at b1 b2 b3 b4
      exact ⟨F.runner.own hij b1, F.closeLock.own hij b2, F.guard.own hij b3,
        F.toEventStep.wakes b4⟩
    · next hne => exact C.stable F hij fun n hp => absurd hp (hne n)

/-- `run_scope.cancel()`, by `shutdown` or by `__detach_server` -/
theorem Frame.runCancel (i : Nat) (G0 : GI g) : Frame i false g { g with runCancel := true } :=
  { Frame.refl i G0 with ev := fun h => ⟨rfl, h, fun _ => .inl rfl⟩ }

/-! The segments that several calls share come first; each takes the changes made before it as a frame `F1` from the
  state `g0` the step started in. -/

theorem serveEnd_inv (F1 : Frame i false g0 g1) (hr : g1.runner = some i) (ht : g1.tasks = .none) (hl : g1.listed = false)
    (a2 : false = true ↔ g1.closeLock = some i) (a3 : false = true ↔ g1.guard = some i) :
    Frame i true g0 (serveEnd g1) ∧ CI i (serveEnd g1) (c.finish r) :=
  ⟨{ F1 with
      shut := iff_of_true rfl rfl
      idle := fun _ => ⟨ht, hl, rfl⟩
      runner := F1.runner.release hr
      run := F1.runner.guarded hr
      gen := ⟨F1.gen.1, fun _ _ => rfl⟩
      ev := fun h => ⟨(F1.ev h).1, rfl⟩ },
    owns_not nofun, a2, a3, rfl⟩

/-- the run ends where the runner is parked, its factory scope or close guard dropped on the way -/
theorem runEnd_inv {outs : List Res} {fs fc : Bool} {u : Option Nat}
    (h : outs[k]?.map (fun r => (serveEnd { g0 with facScope := fs, facCancel := fc, guard := u }, c0.finish r, true)) =
      some (g, c, w))
    (G0 : GI g0) (hr : g0.runner = some i) (ht : g0.tasks = .none) (hl : g0.listed = false)
    (a2 : false = true ↔ g0.closeLock = some i) (a3 : false = true ↔ u = some i) (hu : OwnerStep i g0.guard u) :
    Frame i w g0 g ∧ CI i g c := by
  obtain ⟨r, -, rfl, rfl, rfl⟩ := Option.map_eq_some_iff.mp h
  exact serveEnd_inv { Frame.refl i G0 with guard := hu, run := .mine hr } hr ht hl a2 a3

theorem enterGuard_inv (h : enterGuard i g1 c1 = (g, c, w)) (F1 : Frame i false g0 g1) (hr : g1.runner = some i)
    (ht : g1.tasks = .none) (hl : g1.listed = false) (hs : g1.runScope = true)
    (a2 : false = true ↔ g1.closeLock = some i) (a3 : false = true ↔ g1.guard = some i) (hg1 : g1.guard = g0.guard) :
    Frame i w g0 g ∧ CI i g c := by
  unfold enterGuard at h
  split at h
  · cases h
    exact serveEnd_inv F1 hr ht hl a2 a3
  · next hg =>
    cases h
    exact ⟨{ F1 with guard := .take (hg1 ▸ hg), run := F1.runner.guarded hr }, owns hr, a2, owns rfl, ht, hl, hs⟩

theorem ite_kill_none {b : Bool} {t : TaskSt} (h : t = .none) : (if b then kill t else t) = .none := by
  subst h; cases b <;> rfl

theorem ite_kill_dead {b : Bool} {t : TaskSt} (h : b = true ∨ dead t) : dead (if b then kill t else t) := by
  cases b
  · exact h.resolve_left nofun
  · exact kill_cases t

theorem closeBody_inv (h : closeBody i { g0 with closeLock := some i } c0 = (g, c, w)) (G0 : GI g0)
    (a1 : false = true ↔ g0.runner = some i) (h2 : g0.closeLock = none) (a3 : false = true ↔ g0.guard = some i) :
    Frame i w g0 g ∧ CI i g c := by
  unfold closeBody at h
  split at h
  · cases h
    exact ⟨{ Frame.refl i G0 with closeLock := h2 ▸ .same }, a1, owns_not nofun, a3, rfl⟩
  · next hg =>
    replace hg : g0.guard = none := hg
    cases h
    exact ⟨{ Frame.refl i G0 with
        idle := fun h => ⟨ite_kill_none (G0.idle h).1, (G0.idle h).2⟩
        cdone := fun h => ⟨rfl, (G0.cdone h).2⟩
        lsv := nofun
        closeLock := .take h2
        guard := .take hg
        run := .of ⟨rfl, rfl, rfl, rfl, fun hs _ _ => by simp [hs], ite_kill_none, fun h => ite_kill_dead (.inr h),
          .free hg⟩
        hold := .free hg },
      a1, owns rfl, owns rfl, rfl, fun h => ite_kill_dead (.inl h)⟩

/-- `serve_forever` admitted: the event is swapped, the run scope opened -/
def enterRun (i : Nat) (g : G) : G :=
  { g with isShutdown := false, gen := g.gen + 1, runScope := true, runCancel := false, runner := some i }

theorem Frame.enterRun (G0 : GI g) (hr : g.runner = none) (hs : g.isShutdown = true) : Frame i false g (enterRun i g) :=
  { Frame.refl i G0 with
    shut := iff_of_false nofun nofun
    idle := nofun
    runner := .take hr
    run := .free hr
    gen := ⟨Nat.le_succ _, fun e => absurd e (Nat.succ_ne_self _)⟩
    ev := fun h => absurd (h.symm.trans hs) nofun }

theorem call_inv (h : callStep i g0 c0 = some (g, c, w)) (G0 : GI g0) (C0 : CI i g0 c0) : Frame i w g0 g ∧ CI i g c := by
  obtain ⟨a1, a2, a3, -⟩ := C0
  rcases c0 with ⟨prog, pc, ext, res⟩
  unfold callStep at h
  split at h
  case h_2 => cases h
  rename_i op rest hpc hprog
  cases hpc
  have same (r : Res) : Frame i false g0 g0 ∧ CI i g0 (Caller.finish ⟨rest, .idle, ext, res⟩ r) :=
    ⟨.refl i G0, a1, a2, a3, rfl⟩
  cases op with
  | serve =>
    simp only at h
    split at h
    · cases h; exact same _
    · next hs =>
      replace hs : g0.isShutdown = true := by simpa using hs
      have hr := G0.shut.mp hs
      obtain ⟨ht, hl, -⟩ := G0.idle hr
      have F1 : Frame i false g0 (enterRun i g0) := .enterRun G0 hr hs
      split at h
      · cases h
        exact serveEnd_inv F1 rfl ht hl a2 a3
      · next hcb =>
        split at h
        · exact enterGuard_inv (Option.some.inj h) F1 rfl ht hl rfl a2 a3 rfl
        · cases h
          exact ⟨{ F1 with run := .free hr }, owns rfl, a2, a3, rfl, fun h => absurd h hcb, ht, hl, rfl⟩
  | shutdown | shutdownT =>
    simp only at h
    split at h <;> split at h <;> cases h <;> rename_i hd hs
    · exact ⟨.runCancel i G0, a1, a2, a3, rfl⟩
    · exact same _
    · exact ⟨.runCancel i G0, a1, a2, a3, rfl, Bool.eq_false_iff.mpr hd, .inl rfl⟩
    · exact ⟨.refl i G0, a1, a2, a3, rfl, Bool.eq_false_iff.mpr hd, .inr (Bool.eq_false_iff.mpr hs)⟩
  | close =>
    simp only at h
    split at h
    · cases h
      exact ⟨.refl i G0, a1, a2, a3, trivial⟩
    · next hl => exact closeBody_inv (Option.some.inj h) G0 a1 hl a3
  | probe => cases h; exact same _

theorem adv_inv (h : advStep i k g0 c0 = some (g, c, w)) (G0 : GI g0) (C0 : CI i g0 c0) : Frame i w g0 g ∧ CI i g c := by
  obtain ⟨a1, a2, a3, a4⟩ := C0
  rcases c0 with ⟨prog, pc, ext, res⟩
  cases pc <;> simp only [advStep] at h
  case idle | dWait => cases h
  case sAct =>
    split at h
    · exact runEnd_inv h G0 (a1.mp rfl) a4.2.2.1 a4.2.2.2.1 a2 a3 .same
    · cases h
      exact ⟨.refl i G0, a1, a2, a3, a4⟩
  case sFac =>
    have hr : g0.runner = some i := a1.mp rfl
    split at h
    · exact runEnd_inv h G0 hr a4.2.2.1 a4.2.2.2.1 a2 a3 .same
    · next hc =>
      split at h
      · cases h
      · -- the factory scope is not cancelled, so the server is not closed: nobody relies on closed listeners
        have hcb : g0.factoryCb ≠ false := fun h => hc (.inl (a4.2.1 h))
        exact enterGuard_inv (Option.some.inj h)
          { Frame.refl i G0 with
            cdone := fun h => absurd (G0.cdone h).1 hcb
            lsv := fun _ _ => rfl
            run := .mine hr
            hold := .of fun h => absurd h hcb }
          hr a4.2.2.1 a4.2.2.2.1 a4.2.2.2.2 a2 a3 rfl
  case sInit =>
    have hr : g0.runner = some i := a1.mp rfl
    have hg : g0.guard = some i := a3.mp rfl
    split at h
    · exact runEnd_inv h G0 hr a4.1 a4.2.1 a2 (owns_not nofun) (.drop hg)
    · cases h
      exact ⟨{ Frame.refl i G0 with idle := not_idle hr, run := .mine hr, hold := .mine hg },
        a1, a2, a3, .inl rfl, a4.2⟩
  case sStart =>
    have hr : g0.runner = some i := a1.mp rfl
    have hg : g0.guard = some i := a3.mp rfl
    split at h
    · cases h
      exact ⟨{ Frame.refl i G0 with idle := not_idle hr, guard := .drop hg, run := .mine hr, hold := .mine hg },
        a1, a2, owns_not nofun, kill_cases _, rfl⟩
    · split at h <;> cases h
      exact ⟨{ Frame.refl i G0 with idle := not_idle hr, guard := .drop hg, run := .mine hr },
        a1, a2, owns_not nofun, a4.2.2⟩
  case sSleep =>
    have hr : g0.runner = some i := a1.mp rfl
    split at h <;> cases h
    exact ⟨{ Frame.refl i G0 with
        idle := not_idle hr
        run := .mine hr
        hold := .of fun h => ⟨h, id, fun _ => kill_cases _⟩
        ev := fun h => ⟨rfl, h, fun _ => .inr rfl⟩ },
      a1, a2, a3, kill_cases _, rfl⟩
  case sTg =>
    have hr : g0.runner = some i := a1.mp rfl
    split at h <;> cases h
    exact ⟨{ Frame.refl i G0 with
        idle := not_idle hr
        run := .mine hr
        hold := .of fun h => ⟨h, id, fun _ => .inl rfl⟩ },
      a1, a2, a3, rfl, rfl⟩
  case sQuit => exact runEnd_inv h G0 (a1.mp rfl) a4.1 a4.2 a2 a3 .same
  case dWoken n =>
    cases h
    exact ⟨.refl i G0, a1, a2, a3, rfl⟩
  case cLock =>
    split at h
    · cases h
    · next hl => exact closeBody_inv (Option.some.inj h) G0 a1 hl a3
  case cTasks t =>
    split at h <;> cases h
    exact ⟨{ Frame.refl i G0 with
        cdone := fun h => ⟨(G0.cdone h).1, rfl⟩
        lsv := fun h => nomatch a4.1.symm.trans h
        hold := .of fun h => ⟨h, fun _ => rfl, id⟩ },
      a1, a2, a3, a4.1, rfl⟩
  case cLs =>
    have hg : g0.guard = some i := a3.mp rfl
    cases h
    exact ⟨{ Frame.refl i G0 with
        cdone := fun _ => a4, lsv := fun _ => nofun, closeLock := .drop (a2.mp rfl), guard := .drop hg, hold := .mine hg },
      a1, owns_not nofun, owns_not nofun, rfl⟩

/-! The listener task and the client tasks own nothing, so their steps are frames whoever is taken for the actor. -/

theorem task_env {t : TaskSt} (G0 : GI g) (a : Bool) (h : g.tasks = .starting ∧ t = .up ∨ g.tasks = .dying ∧ t = .done)
    (i : Nat) : Frame i false g { g with tasks := t, attached := a } := by
  have e1 : g.tasks ≠ .none := by rcases h with h | h <;> simp [h.1]
  have e2 : dead g.tasks → dead t := by rcases h with h | h <;> simp [dead, h.1, h.2]
  have e3 : g.tasks = .starting ∨ g.tasks = .up → t = .starting ∨ t = .up := by rcases h with h | h <;> simp [h.1, h.2]
  exact { Frame.refl i G0 with
    idle := fun h => absurd (G0.idle h).1 e1
    run := .of ⟨rfl, rfl, rfl, rfl, fun _ h => h, fun h => absurd h e1, e2, .of e3⟩
    hold := .of fun h => ⟨h, id, e2⟩ }

theorem detachCheck_env (E : Frame i false g0 g) : Frame i false g0 (detachCheck g) := by
  unfold detachCheck
  split
  · exact { E with ev := fun h => ⟨(E.ev h).1, (E.ev h).2.1, fun _ => .inl rfl⟩ }
  · exact E

theorem Inv.step {s : State} (I : Inv s) (h : Frame i w s.g g ∧ CI i g c) : Inv ⟨g, upd s.cs w i c⟩ :=
  ⟨h.1.toGI, fun j => show CI j g (upd s.cs w i c j) from
    if e : j = i then by rw [e, upd_self]; exact h.2
    else by rw [upd_other _ _ _ _ _ e]; exact (I.ci j).frame h.1 e⟩

theorem Inv.env {s : State} (I : Inv s) (h : ∀ i, Frame i false s.g g) : Inv ⟨g, s.cs⟩ :=
  ⟨(h 0).toGI, fun j => (I.ci j).frame (h (j + 1)) (Nat.ne_of_lt (Nat.lt_succ_self j))⟩

theorem CI.cancel (C : CI i g c) (h : c.pc.inServe = true) : CI i g { c with ext := true } := by
  obtain ⟨b1, b2, b3, b4⟩ := C
  refine ⟨b1, b2, b3, ?_⟩
  cases hp : c.pc <;> simp_all [Pc.inServe]

theorem inv_step {s s' : State} {l : Label} (I : Inv s) (h : step s l = some s') : Inv s' := by
  cases l <;> simp only [step] at h
  case call i =>
    obtain ⟨⟨g, c, w⟩, h1, rfl⟩ := Option.map_eq_some_iff.mp h
    exact I.step (call_inv h1 I.gi (I.ci i))
  case adv i k =>
    obtain ⟨⟨g, c, w⟩, h1, rfl⟩ := Option.map_eq_some_iff.mp h
    exact I.step (adv_inv h1 I.gi (I.ci i))
  all_goals
    split at h <;> cases h
    rename_i hs
  case cancel i => exact I.step ⟨.refl i I.gi, (I.ci i).cancel hs⟩
  case taskRun => exact I.env (task_env I.gi _ (.inl ⟨hs, rfl⟩))
  case taskDie =>
    have E := task_env I.gi false (.inr ⟨hs, rfl⟩)
    split
    · exact I.env fun i => detachCheck_env (E i)
    · exact I.env E
  case conn => exact I.env fun i => { Frame.refl i I.gi with }
  case disc => exact I.env fun i => detachCheck_env { Frame.refl i I.gi with }

end Preservation

theorem inv_run {s s' : State} (ls : List Label) (I : Inv s) (h : run s ls = some s') : Inv s' := by
  induction ls generalizing s with
  | nil => simp only [run, Option.some.injEq] at h; exact h ▸ I
  | cons l ls ih =>
    simp only [run] at h
    split at h
    · rename_i s1 hs; exact ih (inv_step I hs) h
    · cases h

theorem inv_reachable {s : State} (h : Reachable s) : Inv s := by
  obtain ⟨progs, ls, hr⟩ := h
  exact inv_run ls (inv_init progs) hr

end EasyNet.Life.A

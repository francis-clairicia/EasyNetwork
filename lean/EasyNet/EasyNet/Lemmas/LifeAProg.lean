/-
  C18 — progress facts of the asynchronous server machine `Life.A`: which steps are enabled in a reachable state
  (deadlock freedom), and an explicit schedule that brings a stopped, not closed server up again.
-/
import EasyNet.Lemmas.LifeA
namespace EasyNet.Life.A

/-- caller `i` can resume (with the first of the outcomes it may choose from) -/
def CanAdv (s : State) (i : Nat) : Prop := (advStep i 0 s.g (s.cs i)).isSome = true

/-- some internal step of the system is enabled: a caller resumes, the listener task runs / dies, a client task
    cancelled by the tear-down dies -/
def Progress (s : State) : Prop :=
  (∃ i, CanAdv s i) ∨ s.g.tasks = .starting ∨ s.g.tasks = .dying ∨ (s.g.clientsDying = true ∧ 0 < s.g.clients)

theorem cancelOuts_ne (g : G) (c : Caller) : (cancelOuts g c)[0]?.isSome = true := by
  unfold cancelOuts; by_cases h1 : c.ext = true <;> by_cases h2 : g.runCancel = true <;> simp [h1, h2]

theorem facOuts_ne (g : G) (c : Caller) : (facOuts g c)[0]?.isSome = true := by
  have hc := cancelOuts_ne g c
  unfold facOuts
  by_cases h3 : g.facCancel = true
  · simp [h3]
  · simpa [h3] using hc

theorem canAdv_iff (s : State) (i : Nat) : CanAdv s i ↔
    match (s.cs i).pc with
    | .idle | .dWait _ => False
    | .sAct | .sFac | .sInit | .sQuit | .dWoken _ | .cLs => True
    | .sStart => ((s.cs i).ext = true ∨ s.g.runCancel = true) ∨ s.g.tasks = .up
    | .sSleep => (s.cs i).ext = true ∨ s.g.runCancel = true
    | .sTg => (s.g.tasks = .none ∨ s.g.tasks = .done) ∧ s.g.clients = 0
    | .cLock => s.g.closeLock = none
    | .cTasks w => w = true → s.g.tasks = .none ∨ s.g.tasks = .done := by
  have hco := cancelOuts_ne s.g (s.cs i)
  have hfo := facOuts_ne s.g (s.cs i)
  unfold CanAdv advStep
  cases hp : (s.cs i).pc <;> simp only
  case sFac =>
    have : 0 < (facOuts s.g (s.cs i)).length := by
      cases h : facOuts s.g (s.cs i) <;> simp [h] at hfo ⊢
    split
    · simp [hfo]
    · rw [if_neg (by simp_all)]; unfold enterGuard; split <;> simp
  case sAct | sInit => split <;> simp [hfo, hco]
  case sStart | sSleep | sTg | cLock => split <;> simp_all
  case cTasks => split <;> simp_all [Decidable.or_iff_not_imp_left]
  all_goals simp [hco]

theorem not_progress {s : State} (hP : ¬ Progress s) :
    (∀ i, ¬ CanAdv s i) ∧ s.g.tasks ≠ .starting ∧ s.g.tasks ≠ .dying ∧ (s.g.clientsDying = true → s.g.clients = 0) :=
  ⟨fun i h => hP (.inl ⟨i, h⟩), fun h => hP (.inr (.inl h)), fun h => hP (.inr (.inr (.inl h))),
    fun h => Nat.eq_zero_of_not_pos fun hc => hP (.inr (.inr (.inr ⟨h, hc⟩)))⟩

theorem runner_progress {s : State} (I : Inv s) (hP : ¬ Progress s) {r : Nat} (hr : (s.cs r).pc.inServe = true) :
    (s.cs r).pc = .sSleep ∧ s.g.runCancel = false ∧ (s.cs r).ext = false ∧ s.g.runScope = true := by
  have ⟨ha, hs, hd, hc⟩ := not_progress hP
  have C := I.ci r
  have ca := mt (canAdv_iff s r).mpr (ha r)
  unfold CI at C
  generalize (s.cs r).pc = p at C ca hr ⊢
  obtain ⟨-, -, -, c4⟩ := C
  cases p with
  | sAct | sFac | sInit | sQuit => exact absurd trivial ca
  | sStart => exact absurd (c4.1.resolve_left hs) fun h => ca (.inr h)
  | sSleep => exact ⟨rfl, Bool.eq_false_iff.mpr fun h => ca (.inr h), Bool.eq_false_iff.mpr fun h => ca (.inl h), c4⟩
  | sTg => exact absurd ⟨c4.1.imp_right (·.resolve_left hd), hc c4.2⟩ ca
  | _ => cases hr

/-- the holder of the close lock can move, or the listener task it waits for can -/
theorem holder_progress {s : State} (I : Inv s) {h : Nat} (hh : s.g.closeLock = some h) : Progress s := by
  refine Classical.not_not.mp fun hP => ?_
  have ⟨ha, _, hd, _⟩ := not_progress hP
  have C := I.ci h
  have ca := mt (canAdv_iff s h).mpr (ha h)
  unfold CI at C
  generalize (s.cs h).pc = p at C ca
  obtain ⟨-, c2, -, c4⟩ := C
  cases p with
  | cTasks w => exact ca fun hw => (c4.2 hw).imp_right (·.resolve_left hd)
  | cLs => exact ca trivial
  | _ => cases c2.mpr hh

theorem no_deadlock {s : State} (I : Inv s) :
    Progress s ∨ ∀ i, (s.cs i).pc = .idle ∨
      ((s.cs i).pc = .sSleep ∧ s.g.runner = some i ∧ s.g.runCancel = false ∧ (s.cs i).ext = false) := by
  refine Classical.or_iff_not_imp_left.mpr fun hP i => ?_
  have C := I.ci i
  have ca := mt (canAdv_iff s i).mpr ((not_progress hP).1 i)
  have run := runner_progress I hP (r := i)
  unfold CI at C
  generalize (s.cs i).pc = p at C ca run ⊢
  obtain ⟨c1, c2, -, c4⟩ := C
  cases p with
  | idle => exact .inl rfl
  | sAct | sFac | sInit | sStart | sSleep | sTg | sQuit =>
    exact .inr ⟨(run rfl).1, c1.mp rfl, (run rfl).2.1, (run rfl).2.2.1⟩
  | dWoken => exact absurd trivial ca
  | dWait n =>
    -- the event is not set, so somebody is inside serve_forever, and has been asked to stop
    obtain ⟨r, hr⟩ := runner_of_clear I.gi.shut c4.2.1
    have ⟨_, hc, _, hs⟩ := runner_progress I hP ((I.ci r).1.mpr hr)
    exact c4.2.2.elim (fun h => nomatch hc.symm.trans h) (fun h => nomatch hs.symm.trans h)
  | cLock =>
    obtain ⟨h, hh⟩ := Option.ne_none_iff_exists'.mp ca
    exact absurd (holder_progress I hh) hP
  | cTasks | cLs => exact absurd (holder_progress I (c2.mp rfl)) hP

theorem step_serve_running {s s' : State} {i : Nat} {rest : List Op} (hpc : (s.cs i).pc = .idle)
    (hprog : (s.cs i).prog = .serve :: rest) (hs : s.g.isShutdown = false) (h : step s (.call i) = some s') :
    s' = ⟨s.g, upd s.cs false i ({ s.cs i with prog := rest }.finish .alreadyRunning)⟩ := by
  simpa [step, callStep, hpc, hprog, hs] using h.symm

theorem guard_free {s : State} (I : Inv s) (hrun : s.g.runner = none) (hcb : s.g.factoryCb = true) : s.g.guard = none := by
  refine Option.eq_none_iff_forall_ne_some.mpr fun j hg => ?_
  have C := I.ci j
  unfold CI at C
  generalize (s.cs j).pc = p at C
  obtain ⟨c1, -, c3, c4⟩ := C
  cases p with
  | sInit | sStart => cases hrun.symm.trans (c1.mp rfl)
  | cTasks | cLs => cases hcb.symm.trans c4.1
  | _ => cases c3.mpr hg

/-- **restartable**: explicit schedule from a stopped, not closed server to `is_serving() = True` -/
theorem restart {s : State} (I : Inv s) (i : Nat) (rest : List Op)
    (hrun : s.g.runner = none) (hcb : s.g.factoryCb = true) (hpc : (s.cs i).pc = .idle)
    (hprog : (s.cs i).prog = .serve :: rest) :
    ∃ ls s', run s ls = some s' ∧ serving s'.g = true ∧ (s'.cs i).pc = .sSleep ∧ s'.g.runner = some i ∧
      (s'.cs i).results = (s.cs i).results := by
  have hsd : s.g.isShutdown = true := I.gi.shut.mpr hrun
  have hg := guard_free I hrun hcb
  have hlo := I.gi.lsv hcb
  have hext : (s.cs i).ext = false := by
    have := (I.ci i).2.2.2; simpa [hpc] using this
  -- the factory runs (two more steps) unless the listeners of an earlier run are still there
  refine ⟨.call i :: .adv i 0 :: (if s.g.servers then [] else [.adv i 0, .adv i 0]) ++ [.taskRun, .adv i 0], ?_⟩
  cases hsv : s.g.servers
  all_goals
    simp [run, step, callStep, advStep, upd, enterGuard, facOuts, cancelOuts, serving, listening, hpc, hprog, hsd, hcb,
      hsv, hg, hext, hlo]
    decide

end EasyNet.Life.A

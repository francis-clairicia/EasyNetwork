/-
  C18 — inductive invariants of the standalone (threads) server machine `Life.S` (Model/Life.lean), for any family
  of threads, any programs, any schedule; progress facts (deadlock freedom) and the restart schedule.
  Lemmas/LifeStep.lean says how the invariant proof is built.
-/
import EasyNet.Model.Life
import EasyNet.Lemmas.LifeStep
namespace EasyNet.Life.S

theorem wake_pc (c : Caller) : (wake c).pc = match c.pc with | .dEvent _ g => .dWoken g | p => p := by
  unfold wake; split <;> simp_all

def Pc.holdsClose : Pc → Bool
  | .tBoot | .cBoot | .cInner => true
  | _ => false

def Pc.holdsBoot : Pc → Bool
  | .dInner _ | .cInner => true
  | _ => false

structure GI (g : G) : Prop where
  shut : g.isShutdown = true ↔ g.runner = none
  idle : g.runner = none → g.phase = .none ∧ g.attr = false ∧ g.lsOpen = false ∧ g.portalOpen = false
  cdone : g.closeDone = true → g.isClosed = true
  pend : (g.bootLock = none → g.pendingPortal = 0) ∧ (g.bootLock ≠ none → g.pendingPortal = 1)
  lso : g.lsOpen = true → g.phase ≠ .none
  po1 : g.portalOpen = true → g.phase ≠ .none ∧ g.attr = true
  po2 : g.portalOpen = false → g.phase = .stopped ∨ g.phase = .none
  att : g.runner ≠ none → g.attr = true
  /-- with the fix: once a server_close has returned, listeners are closed, or the runner is past the portal exit and
      closes them in its next step -/
  lsc : g.fix = true → g.isClosed = true → g.lsOpen = true → (g.attr = true ∧ g.portalOpen = false ∧ g.phase = .stopped)

def CI (j : Nat) (g : G) (c : Caller) : Prop :=
  (c.pc.inRun = true ↔ g.runner = some j) ∧
  (c.pc.holdsClose = true ↔ g.closeLock = some j) ∧
  (c.pc.holdsBoot = true ↔ g.bootLock = some j) ∧
  (match c.pc with
   | .tBoot => g.isClosed = false
   | .tLoop => g.attr = true ∧ g.portalOpen = true ∧ g.phase ≠ .none
   | .tDrain => g.attr = true ∧ g.portalOpen = false ∧ g.phase = .stopped
   | .tReacq => g.attr = true ∧ g.portalOpen = false ∧ g.phase = .none ∧ g.lsOpen = false
   | .dInner _ => g.attr = true ∧ (g.innerCancel = true ∨ g.phase = .stopping ∨ g.phase = .stopped)
   | .cInner => g.attr = true
   | .dEvent _ n => n = g.gen ∧ g.isShutdown = false ∧ (g.innerCancel = true ∨ g.phase = .stopping ∨ g.phase = .stopped ∨ g.phase = .none)
   | .dWoken n => n ≤ g.gen ∧ (n = g.gen → g.isShutdown = true)
   | _ => True)

structure Inv (s : State) : Prop where
  gi : GI s.g
  ci : ∀ j, CI j s.g (s.cs j)

theorem inv_init (fix : Bool) (progs : Nat → List Op) : Inv (State.init fix progs) := by
  refine ⟨⟨?_, ?_, ?_, ?_, ?_, ?_, ?_, ?_, ?_⟩, fun j => ?_⟩ <;> simp [State.init, G.init, CI, Caller.init, Pc.inRun, Pc.holdsClose, Pc.holdsBoot]

section Preservation
variable {i j k : Nat} {g0 g : G} {c0 c cj : Caller} {w : Bool} {s : State}

/-- the embedded run has been told to stop, or is stopping -/
def Winding (g : G) : Prop := g.innerCancel = true ∨ g.phase = .stopping ∨ g.phase = .stopped

/-- … or is over: `is_shutdown` will be set without further help -/
def Ending (g : G) : Prop := g.innerCancel = true ∨ g.phase = .stopping ∨ g.phase = .stopped ∨ g.phase = .none

theorem Winding.ending (h : Winding g) : Ending g :=
  h.imp_right fun h => h.imp_right .inl

theorem Ending.winding (h : Ending g) (hp : g.phase ≠ .none) : Winding g :=
  h.imp_right fun h => h.imp_right fun h => h.resolve_right hp

theorem Winding.cancelled (h : Winding g) (hp : g.phase = .setup ∨ g.phase = .serving) : g.innerCancel = true := by
  rcases h with h | h | h
  · exact h
  all_goals rcases hp with hp | hp <;> cases hp.symm.trans h

structure Frame (i : Nat) (w : Bool) (g0 g : G) : Prop
    extends GI g, EventStep w g0.gen g.gen g0.isShutdown g.isShutdown (Ending g0) (Ending g) where
  runner : OwnerStep i g0.runner g.runner
  closeLock : OwnerStep i g0.closeLock g.closeLock
  bootLock : OwnerStep i g0.bootLock g.bootLock
  /-- `is_closed` is set under the close lock only -/
  closed : Guarded i g0.closeLock (g0.isClosed = false → g.isClosed = false)
  /-- portal, embedded server and its phase belong to the thread inside serve_forever; others only close listeners -/
  run : Guarded i g0.runner
    (g.attr = g0.attr ∧ g.portalOpen = g0.portalOpen ∧ g.phase = g0.phase ∧ (g0.lsOpen = false → g.lsOpen = false))
  /-- while a call through the portal is pending the run is not reset (`tDrain` waits for it, `tReacq` for the lock) -/
  boot : Guarded i g0.bootLock ((g0.attr = true → g.attr = true) ∧ (Winding g0 → Winding g))

theorem Frame.refl (i : Nat) (G0 : GI g) : Frame i false g g :=
  { G0 with
    runner := .same, closeLock := .same, bootLock := .same, closed := .of id, run := .of ⟨rfl, rfl, rfl, id⟩,
    boot := .of ⟨id, id⟩, gen := ⟨Nat.le_refl _, fun _ => id⟩, ev := fun h => ⟨rfl, h, id⟩ }

theorem CI.stable (F : Frame i w g0 g) (hij : j ≠ i) (Cj : CI j g0 cj)
    (hw : ∀ t n, cj.pc = .dEvent t n → w = false) : CI j g cj := by
  obtain ⟨b1, b2, b3, b4⟩ := Cj
  refine ⟨F.runner.own hij b1, F.closeLock.own hij b2, F.bootLock.own hij b3, ?_⟩
  rcases cj with ⟨prog, pc, res⟩
  cases pc with
  | tBoot => exact F.closed.of_owner hij (b2.mp rfl) b4
  | tLoop | tDrain =>
    obtain ⟨e1, e2, e3, _⟩ := F.run.of_owner hij (b1.mp rfl)
    exact (show _ ∧ _ ∧ _ from e1 ▸ e2 ▸ e3 ▸ b4)
  | tReacq =>
    obtain ⟨e1, e2, e3, e4⟩ := F.run.of_owner hij (b1.mp rfl)
    exact ⟨e1 ▸ b4.1, e2 ▸ b4.2.1, e3 ▸ b4.2.2.1, e4 b4.2.2.2⟩
  | dInner t => exact (F.boot.of_owner hij (b3.mp rfl)).imp (· b4.1) (· b4.2)
  | cInner => exact (F.boot.of_owner hij (b3.mp rfl)).1 b4
  | dEvent t n =>
    cases hw t n rfl
    exact F.toEventStep.waiting b4
  | dWoken n => exact F.toEventStep.woken b4
  | _ => trivial

theorem CI.frame (F : Frame i w g0 g) (hij : j ≠ i) (Cj : CI j g0 cj) :
    CI j g (if w then wake cj else cj) := by
  cases w
  · exact Cj.stable F hij fun _ _ _ => rfl
  · show CI j g (wake cj)
    unfold wake
    split
    · next t n hp =>
      obtain ⟨b1, b2, b3, b4⟩ := Cj
      simp only [hp] at b1 b2 b3 b4
      exact ⟨F.runner.own hij b1, F.closeLock.own hij b2, F.bootLock.own hij b3,
        F.toEventStep.wakes b4⟩
    · next hne => exact Cj.stable F hij fun t n hp => absurd hp (hne t n)

theorem Frame.lockBoot (G0 : GI g) (hb : g.bootLock = none) (i : Nat) :
    Frame i false g { g with bootLock := some i, pendingPortal := g.pendingPortal + 1 } :=
  { Frame.refl i G0 with
    pend := ⟨nofun, fun _ => congrArg (· + 1) (G0.pend.1 hb)⟩, bootLock := .take hb, boot := .free hb }

theorem Frame.unlockBoot (G0 : GI g) (hb : g.bootLock = some i) :
    Frame i false g { g with bootLock := none, pendingPortal := g.pendingPortal - 1 } :=
  { Frame.refl i G0 with
    pend := ⟨fun _ => congrArg (· - 1) (G0.pend.2 (hb ▸ nofun)), fun h => absurd rfl h⟩, bootLock := .drop hb, boot := .mine hb }

theorem GI.boot_free (G0 : GI g) (h : g.pendingPortal = 0) : g.bootLock = none :=
  Classical.not_not.mp fun hb => nomatch h.symm.trans (G0.pend.2 hb)

theorem GI.portal_gone (G0 : GI g) (hr : g.runner ≠ none) (hp : ¬ (g.attr = true ∧ g.portalOpen = true)) :
    g.phase = .stopped ∨ g.phase = .none :=
  G0.po2 (Bool.eq_false_iff.mpr fun h => hp ⟨G0.att hr, h⟩)

/-- the embedded `shutdown()` cancels the run scope unless the run is already on its way out -/
theorem cancel_or_winding {p : Phase} (b : Bool) (hp : p ≠ .none) :
    (if p = .setup ∨ p = .serving then true else b) = true ∨ p = .stopping ∨ p = .stopped := by
  cases p <;> simp at hp ⊢

theorem raised {P : Prop} [Decidable P] {b : Bool} (h : b = true) : (if P then true else b) = true := by
  simp [h]

theorem adv_inv (h : advStep i k g0 c0 = some (g, c, w)) (G0 : GI g0) (C0 : CI i g0 c0) : Frame i w g0 g ∧ CI i g c := by
  obtain ⟨a1, a2, a3, a4⟩ := C0
  rcases c0 with ⟨prog, pc, res⟩
  cases pc <;> simp only [advStep, waitEvent] at h
  case idle => cases h
  case tClose =>
    split at h
    · cases h
    · next hl =>
      split at h <;> cases h
      · exact ⟨.refl i G0, a1, a2, a3, trivial⟩
      · next hc => exact ⟨{ Frame.refl i G0 with closeLock := .take hl }, a1, owns rfl, a3, Bool.eq_false_iff.mpr hc⟩
  case tBoot =>
    have hl : g0.closeLock = some i := a2.mp rfl
    split at h
    · cases h
    · next hb =>
      split at h <;> cases h
      · exact ⟨{ Frame.refl i G0 with closeLock := .drop hl }, a1, owns_not nofun, a3, trivial⟩
      · next hs =>
        have hs : g0.isShutdown = true := Bool.not_eq_false _ ▸ hs
        have hr : g0.runner = none := G0.shut.mp hs
        exact ⟨{ Frame.refl i G0 with
            shut := iff_of_false nofun nofun, idle := nofun, lso := fun _ => nofun, po1 := fun _ => ⟨nofun, rfl⟩, po2 := nofun,
            att := fun _ => rfl, lsc := fun _ hc => (nomatch a4.symm.trans hc),
            runner := .take hr, closeLock := .drop hl, closed := .mine hl, run := .free hr, boot := .free hb,
            gen := ⟨Nat.le_succ _, fun h => absurd h (Nat.succ_ne_self _)⟩, ev := fun h => (nomatch hs.symm.trans h) },
          owns rfl, owns_not nofun, a3, rfl, rfl, nofun⟩
  case tLoop =>
    have hr : g0.runner = some i := a1.mp rfl
    obtain ⟨hat, hpo, hph⟩ := a4
    have move : ∀ p : Phase, p ≠ .none → (Winding g0 → Winding { g0 with phase := p }) →
        Frame i false g0 { g0 with phase := p } ∧ CI i { g0 with phase := p } ⟨prog, .tLoop, res⟩ := fun p hp hw =>
      ⟨{ Frame.refl i G0 with
          idle := not_idle hr, lso := fun _ => hp, po1 := fun _ => ⟨hp, hat⟩, po2 := fun h => (nomatch hpo.symm.trans h),
          lsc := fun hf hc hl => (nomatch hpo.symm.trans (G0.lsc hf hc hl).2.1),
          run := .mine hr, boot := .of ⟨id, hw⟩, ev := fun h => ⟨rfl, h, fun e => (hw (e.winding hph)).ending⟩ },
        a1, a2, a3, hat, hpo, hp⟩
    split at h
    · next hp =>
      cases h
      exact move _ (by split <;> nofun) fun hw => .inl (hw.cancelled (.inl hp))
    · split at h <;> cases h
      exact move .stopping nofun fun _ => .inr (.inl rfl)
    · cases h
      exact move .stopped nofun fun _ => .inr (.inr rfl)
    · next hp =>
      cases h
      exact ⟨{ Frame.refl i G0 with
          idle := not_idle hr, po1 := nofun, po2 := fun _ => .inl hp, lsc := fun _ _ _ => ⟨hat, rfl, hp⟩, run := .mine hr },
        a1, a2, a3, hat, rfl, hp⟩
    · cases h
  case tDrain =>
    have hr : g0.runner = some i := a1.mp rfl
    split at h <;> cases h
    next hp =>
    exact ⟨{ Frame.refl i G0 with
        idle := not_idle hr, lso := nofun, po1 := fun h => (nomatch a4.2.1.symm.trans h), po2 := fun _ => .inr rfl,
        lsc := fun _ _ => nofun,
        run := .mine hr, boot := .free (G0.boot_free hp), ev := fun h => ⟨rfl, h, fun _ => .inr (.inr (.inr rfl))⟩ },
      a1, a2, a3, a4.1, a4.2.1, rfl, rfl⟩
  case tReacq =>
    have hr : g0.runner = some i := a1.mp rfl
    split at h <;> cases h
    next hb =>
    exact ⟨{ Frame.refl i G0 with
        shut := iff_of_true rfl rfl, idle := fun _ => ⟨a4.2.2.1, rfl, a4.2.2.2, a4.2.1⟩,
        po1 := fun h => (nomatch a4.2.1.symm.trans h), att := fun h => absurd rfl h,
        lsc := fun _ _ h => (nomatch a4.2.2.2.symm.trans h),
        runner := .drop hr, run := .mine hr, boot := .free hb, gen := ⟨Nat.le_refl _, fun _ _ => rfl⟩,
        ev := fun _ => ⟨rfl, rfl⟩ },
      owns_not nofun, a2, a3, trivial⟩
  case dBoot =>
    split at h
    · cases h
    · next hb =>
      split at h
      · next hp =>
        cases h
        exact ⟨{ Frame.lockBoot G0 hb i with boot := .free hb, ev := fun h => ⟨rfl, h, Or.imp_left raised⟩ },
          a1, a2, owns rfl, hp.1, cancel_or_winding _ (G0.po1 hp.2).1⟩
      · next hp =>
        split at h <;> cases h
        · exact ⟨.refl i G0, a1, a2, a3, trivial⟩
        · next hs =>
          have hs : g0.isShutdown = false := Bool.eq_false_iff.mpr hs
          have hr : g0.runner ≠ none := fun h => nomatch hs.symm.trans (G0.shut.mpr h)
          exact ⟨.refl i G0, a1, a2, a3, rfl, hs, .inr (.inr (G0.portal_gone hr hp))⟩
  case dInner =>
    have hb : g0.bootLock = some i := a3.mp rfl
    split at h
    · split at h <;> cases h
      · exact ⟨.unlockBoot G0 hb, a1, a2, owns_not nofun, trivial⟩
      · next hs =>
        exact ⟨.unlockBoot G0 hb, a1, a2, owns_not nofun, rfl, Bool.eq_false_iff.mpr hs, Winding.ending a4.2⟩
    · cases h
  case dEvent =>
    split at h <;> cases h
    exact ⟨.refl i G0, a1, a2, a3, trivial⟩
  case dWoken =>
    cases h
    exact ⟨.refl i G0, a1, a2, a3, trivial⟩
  case cClose =>
    split at h <;> cases h
    next hl => exact ⟨{ Frame.refl i G0 with closeLock := .take hl }, a1, owns rfl, a3, trivial⟩
  case cBoot =>
    have hl : g0.closeLock = some i := a2.mp rfl
    split at h
    · cases h
    · next hb =>
      split at h <;> cases h
      · next hp => exact ⟨.lockBoot G0 hb i, a1, a2, owns rfl, hp.1⟩
      · next hp =>
        exact ⟨{ Frame.refl i G0 with
            cdone := fun _ => rfl
            lsc := fun _ _ hl =>
              have hr : g0.runner ≠ none := fun h => nomatch (G0.idle h).2.2.1.symm.trans hl
              ⟨G0.att hr, Bool.eq_false_iff.mpr fun h => hp ⟨G0.att hr, h⟩, (G0.portal_gone hr hp).resolve_right (G0.lso hl)⟩
            closeLock := .drop hl, closed := .mine hl },
          a1, owns_not nofun, a3, trivial⟩
  case cInner =>
    have hl : g0.closeLock = some i := a2.mp rfl
    have hb : g0.bootLock = some i := a3.mp rfl
    split at h
    · split at h <;> cases h
      · exact ⟨{ Frame.unlockBoot G0 hb with closeLock := .drop hl }, a1, owns_not nofun, owns_not nofun, trivial⟩
      · next hf =>
        exact ⟨{ Frame.unlockBoot G0 hb with
            cdone := fun _ => rfl, lsc := fun h => absurd h hf, closeLock := .drop hl, closed := .mine hl },
          a1, owns_not nofun, owns_not nofun, trivial⟩
    · cases h
      exact ⟨{ Frame.unlockBoot G0 hb with
          idle := fun h => ⟨(G0.idle h).1, (G0.idle h).2.1, rfl, (G0.idle h).2.2.2⟩, cdone := fun _ => rfl, lso := nofun,
          lsc := fun _ _ => nofun,
          closeLock := .drop hl, closed := .mine hl, run := .of ⟨rfl, rfl, rfl, fun _ => rfl⟩, boot := .mine hb,
          ev := fun h => ⟨rfl, h, Or.imp_left raised⟩ },
        a1, owns_not nofun, owns_not nofun, trivial⟩
  case bBoot =>
    split at h <;> cases h
    exact ⟨.refl i G0, a1, a2, a3, trivial⟩

theorem call_inv (h : callStep i g0 c0 = some (g, c, w)) (G0 : GI g0) (C0 : CI i g0 c0) : Frame i w g0 g ∧ CI i g c := by
  obtain ⟨a1, a2, a3, _⟩ := C0
  rcases c0 with ⟨prog, pc, res⟩
  unfold callStep at h
  split at h
  · next op rest hpc hprog =>
    cases hpc
    cases op <;> cases h <;> exact ⟨.refl i G0, a1, a2, a3, trivial⟩
  · cases h

theorem Inv.step (I : Inv s) (h : Frame i w s.g g ∧ CI i g c) : Inv ⟨g, upd s.cs w i c⟩ := by
  refine ⟨h.1.toGI, fun j => ?_⟩
  show CI j g (if j = i then c else if w then wake (s.cs j) else s.cs j)
  split
  · next hj => exact hj ▸ h.2
  · next hj => exact (I.ci j).frame h.1 hj

theorem inv_step {s s' : State} {l : Label} (I : Inv s) (h : step s l = some s') : Inv s' := by
  cases l <;> simp only [step] at h <;> obtain ⟨⟨g, c, w⟩, h1, rfl⟩ := Option.map_eq_some_iff.mp h
  case call i => exact I.step (call_inv h1 I.gi (I.ci i))
  case adv i k => exact I.step (adv_inv h1 I.gi (I.ci i))

theorem inv_run {s s' : State} (ls : List Label) (I : Inv s) (h : run s ls = some s') : Inv s' := by
  induction ls generalizing s with
  | nil => simp only [run, Option.some.injEq] at h; exact h ▸ I
  | cons l ls ih =>
    simp only [run] at h
    split at h
    · rename_i s1 hs; exact ih (inv_step I hs) h
    · cases h

theorem inv_reachable {s : State} (h : Reachable s) : Inv s := by
  obtain ⟨fix, progs, ls, hr⟩ := h
  exact inv_run ls (inv_init fix progs) hr

end Preservation

theorem Inv.quiet {s : State} (I : Inv s) (h : s.g.isShutdown = true) :
    s.g.runner = none ∧ s.g.phase = .none ∧ s.g.lsOpen = false ∧ s.g.portalOpen = false ∧ ∀ j, (s.cs j).pc.inRun = false :=
  have hr := I.gi.shut.mp h
  have ⟨h1, _, h3, h4⟩ := I.gi.idle hr
  ⟨hr, h1, h3, h4, fun j => Bool.eq_false_iff.mpr fun hj => nomatch hr.symm.trans ((I.ci j).1.mp hj)⟩

theorem Inv.one_runner {s : State} {i j : Nat} (I : Inv s) (hi : (s.cs i).pc.inRun = true) (hj : (s.cs j).pc.inRun = true) : i = j :=
  Option.some.inj (((I.ci i).1.mp hi).symm.trans ((I.ci j).1.mp hj))

def CanAdv (s : State) (i : Nat) : Prop := (advStep i 0 s.g (s.cs i)).isSome = true

def Progress (s : State) : Prop := ∃ i, CanAdv s i

theorem isSome_ite_some {α} {c : Prop} [Decidable c] (a b : α) : (if c then some a else some b).isSome = true := by
  split <;> rfl

/-- the guard of each step (`k = 0`: no timeout fires) -/
theorem canAdv_iff {s : State} {i : Nat} : CanAdv s i ↔
    match (s.cs i).pc with
    | .tClose | .cClose => s.g.closeLock = none
    | .tBoot | .tReacq | .dBoot _ | .cBoot | .bBoot => s.g.bootLock = none
    | .tLoop => s.g.phase ≠ .none ∧ (s.g.phase = .serving → s.g.innerCancel = true)
    | .tDrain => s.g.pendingPortal = 0
    | .dInner _ => s.g.phase = .stopped ∨ s.g.phase = .none
    | .dWoken _ | .cInner => True
    | .idle | .dEvent _ _ => False := by
  unfold CanAdv advStep
  cases (s.cs i).pc <;> simp only [waitEvent] <;> (try split) <;> simp_all [isSome_ite_some]

theorem runner_progress {s : State} (I : Inv s) {r : Nat} (hr : s.g.runner = some r) (he : Ending s.g)
    (hb : s.g.bootLock = none ∨ ¬ (s.g.phase = .stopped ∨ s.g.phase = .none)) : CanAdv s r := by
  have C := I.ci r
  rw [canAdv_iff]
  unfold CI at C
  generalize (s.cs r).pc = p at C ⊢
  obtain ⟨c1, _, _, c4⟩ := C
  cases p with
  | tLoop => exact ⟨c4.2.2, fun hs => (he.winding c4.2.2).cancelled (.inr hs)⟩
  | tDrain => exact I.gi.pend.1 (hb.resolve_right fun h => h (.inl c4.2.2))
  | tReacq => exact hb.resolve_right fun h => h (.inr c4.2.2.1)
  | _ => cases c1.mpr hr

/-- the holder of the bootstrap lock can move, or the thread inside serve_forever it waits for can -/
theorem boot_holder_progress {s : State} (I : Inv s) {b : Nat} (hb : s.g.bootLock = some b) : Progress s := by
  have C := I.ci b
  have hcan := canAdv_iff (s := s) (i := b)
  unfold CI at C
  generalize (s.cs b).pc = p at C hcan
  obtain ⟨_, _, c3, c4⟩ := C
  cases p with
  | dInner t =>
    by_cases hd : s.g.phase = .stopped ∨ s.g.phase = .none
    · exact ⟨b, hcan.mpr hd⟩
    · have hat : s.g.attr = true := c4.1
      obtain ⟨r, hr⟩ := Option.ne_none_iff_exists'.mp fun h => nomatch hat.symm.trans (I.gi.idle h).2.1
      exact ⟨r, runner_progress I hr (Winding.ending c4.2) (.inr hd)⟩
  | cInner => exact ⟨b, hcan.mpr trivial⟩
  | _ => cases c3.mpr hb

theorem close_holder_progress {s : State} (I : Inv s) {h : Nat} (hh : s.g.closeLock = some h) (hb : s.g.bootLock = none) :
    CanAdv s h := by
  have C := I.ci h
  rw [canAdv_iff]
  unfold CI at C
  generalize (s.cs h).pc = p at C ⊢
  cases p with
  | tBoot | cBoot => exact hb
  | cInner => trivial
  | _ => cases C.2.1.mpr hh

theorem no_deadlock {s : State} (I : Inv s) :
    Progress s ∨ ∀ i, (s.cs i).pc = .idle ∨
      ((s.cs i).pc = .tLoop ∧ s.g.runner = some i ∧ s.g.phase = .serving ∧ s.g.innerCancel = false) := by
  refine Classical.or_iff_not_imp_left.mpr fun hP i => ?_
  have hboot : s.g.bootLock = none := Option.eq_none_iff_forall_ne_some.mpr fun b hb => hP (boot_holder_progress I hb)
  have hclose : s.g.closeLock = none :=
    Option.eq_none_iff_forall_ne_some.mpr fun b hb => hP ⟨b, close_holder_progress I hb hboot⟩
  have C := I.ci i
  have hi : ¬ CanAdv s i := fun h => hP ⟨i, h⟩
  rw [canAdv_iff] at hi
  unfold CI at C
  generalize (s.cs i).pc = p at C hi ⊢
  obtain ⟨c1, _, c3, c4⟩ := C
  cases p with
  | idle => exact .inl rfl
  | tLoop =>
    have ⟨hs, hc⟩ := Classical.not_imp.mp fun h => hi ⟨c4.2.2, h⟩
    exact .inr ⟨rfl, c1.mp rfl, hs, Bool.eq_false_iff.mpr hc⟩
  | tClose | cClose => exact absurd hclose hi
  | tBoot | tReacq | dBoot | cBoot | bBoot => exact absurd hboot hi
  | tDrain => exact absurd (I.gi.pend.1 hboot) hi
  | dInner => cases hboot.symm.trans (c3.mp rfl)
  | dEvent =>
    obtain ⟨r, hr⟩ := runner_of_clear I.gi.shut c4.2.1
    exact absurd ⟨r, runner_progress I hr c4.2.2 (.inl hboot)⟩ hP
  | dWoken | cInner => exact absurd trivial hi

/-- **restartable**: explicit schedule from a stopped, not closed server (nobody else inside serve_forever /
    server_close) to `is_serving() = True` -/
theorem restart {s : State} (I : Inv s) (i : Nat) (rest : List Op)
    (hrun : s.g.runner = none) (hcl : s.g.isClosed = false) (hlk : s.g.closeLock = none)
    (hpc : (s.cs i).pc = .idle) (hprog : (s.cs i).prog = .serve :: rest) :
    ∃ ls s', run s ls = some s' ∧ (s'.cs i).pc = .tLoop ∧ s'.g.runner = some i ∧ s'.g.phase = .serving ∧
      s'.g.lsOpen = true ∧ s'.g.portalOpen = true ∧ s'.g.attr = true ∧ (s'.cs i).results = (s.cs i).results := by
  have hsd : s.g.isShutdown = true := I.gi.shut.mpr hrun
  -- whoever held the bootstrap lock would be talking to an embedded server, and there is none
  have hb : s.g.bootLock = none := Option.eq_none_iff_forall_ne_some.mpr fun b hb => by
    have C := I.ci b
    have hat := (I.gi.idle hrun).2.1
    unfold CI at C
    generalize (s.cs b).pc = p at C
    cases p with
    | dInner => cases hat.symm.trans C.2.2.2.1
    | cInner => cases hat.symm.trans C.2.2.2
    | _ => cases C.2.2.1.mpr hb
  refine ⟨[.call i, .adv i 0, .adv i 0, .adv i 0], ?_⟩
  simp [run, step, callStep, advStep, upd, hpc, hprog, hsd, hcl, hlk, hb]

end EasyNet.Life.S

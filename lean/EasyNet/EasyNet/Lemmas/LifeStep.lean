/-
  C18 — what a step of one caller may do to the state it shares with the others: the notions the invariants of the two
  server machines of Model/Life.lean (Lemmas/LifeA.lean, Lemmas/LifeS.lean) have in common.

  Ghost ownership: some fields of the shared state record which caller is inside serve_forever or holds a lock; the
  invariant `CI j` of caller `j` says that `j` is the owner exactly when its program counter says so, and states facts
  that only the owner may invalidate.  A step of caller `i` moves such a field between free and `i` (`OwnerStep`) and
  keeps the facts that belong to somebody else (`Guarded`).  The shutdown event: callers wait for the event of one
  generation; what a step may do to it is an `EventStep`.

  Each machine collects these clauses, together with its global invariant `GI`, in a structure `Frame i`.  Every step
  of caller `i` is a `Frame i` step and re-establishes `CI i` (`call_inv`, `adv_inv`); a `Frame i` step preserves
  `CI j` for every `j ≠ i` (`CI.frame`).  So the callers are never looked at two at a time.  In `adv_inv` there is
  one case per outcome of the step, and `{ Frame.refl i G0 with … }` lists the clauses that outcome touches.
-/
namespace EasyNet.Life
variable {i j : Nat} {a b : Option Nat} {p : Prop}

theorem owns (h : a = some i) : true = true ↔ a = some i := iff_of_true rfl h

theorem owns_not (h : a ≠ some i) : false = true ↔ a = some i := iff_of_false nofun h

theorem not_idle (hi : a = some i) (h : a = none) : p :=
  nomatch hi.symm.trans h

inductive OwnerStep (i : Nat) (a : Option Nat) : Option Nat → Prop
  | same : OwnerStep i a a
  | take (h : a = none) : OwnerStep i a (some i)
  | drop (h : a = some i) : OwnerStep i a none

theorem OwnerStep.own {q : Prop} (h : OwnerStep i a b) (hij : j ≠ i) (hq : q ↔ a = some j) : q ↔ b = some j := by
  cases h with
  | same => exact hq
  | take h => simpa [h, Ne.symm hij] using hq
  | drop h => simpa [h, Ne.symm hij] using hq

theorem OwnerStep.release (h : OwnerStep i a b) (hb : b = some i) : OwnerStep i a none := by
  cases h with
  | same => exact .drop hb
  | take h => exact h ▸ .same
  | drop => cases hb

inductive Guarded (i : Nat) (owner : Option Nat) (p : Prop) : Prop
  | mine (h : owner = some i)
  | free (h : owner = none)
  | of (h : p)

theorem Guarded.of_owner (h : Guarded i a p) (hij : j ≠ i) (ha : a = some j) : p := by
  cases h with
  | mine h => exact absurd (Option.some.inj (ha.symm.trans h)) hij
  | free h => cases ha.symm.trans h
  | of h => exact h

theorem OwnerStep.guarded (h : OwnerStep i a b) (hb : b = some i) : Guarded i a p := by
  cases h with
  | same => exact .mine hb
  | take h => exact .free h
  | drop => cases hb

theorem clear_of_runner {e : Bool} (shut : e = true ↔ a = none) (h : a = some i) : e = false :=
  Bool.eq_false_iff.mpr fun he => nomatch h.symm.trans (shut.mp he)

theorem runner_of_clear {e : Bool} (shut : e = true ↔ a = none) (h : e = false) : ∃ r, a = some r :=
  Option.ne_none_iff_exists'.mp fun ha => nomatch h.symm.trans (shut.mpr ha)

/-- The shutdown event has generation `n` and is set iff `b`; `e`: the run is ending, so that the event will be set
    without further help (what a waiter relies on); `w`: the step sets the event. -/
structure EventStep (w : Bool) (n0 n : Nat) (b0 b : Bool) (e0 e : Prop) : Prop where
  gen : n0 ≤ n ∧ (n = n0 → b0 = true → b = true)
  ev : b0 = false → n = n0 ∧
    match w with
    | true => b = true
    | false => b = false ∧ (e0 → e)

variable {w : Bool} {m n0 n : Nat} {b0 b : Bool} {e0 e : Prop}

theorem EventStep.waiting (E : EventStep false n0 n b0 b e0 e) (h : m = n0 ∧ b0 = false ∧ e0) : m = n ∧ b = false ∧ e :=
  have ⟨e1, e2⟩ := E.ev h.2.1
  ⟨h.1.trans e1.symm, e2.1, e2.2 h.2.2⟩

theorem EventStep.wakes (E : EventStep true n0 n b0 b e0 e) (h : m = n0 ∧ b0 = false ∧ e0) : m ≤ n ∧ (m = n → b = true) :=
  have ⟨e1, e2⟩ := E.ev h.2.1
  ⟨Nat.le_of_eq (h.1.trans e1.symm), fun _ => e2⟩

theorem EventStep.woken (E : EventStep w n0 n b0 b e0 e) (h : m ≤ n0 ∧ (m = n0 → b0 = true)) : m ≤ n ∧ (m = n → b = true) := by
  refine ⟨Nat.le_trans h.1 E.gen.1, fun hm => ?_⟩
  have hn : n = n0 := Nat.le_antisymm (hm ▸ h.1) E.gen.1
  exact E.gen.2 hn (h.2 (hm.trans hn))

end EasyNet.Life

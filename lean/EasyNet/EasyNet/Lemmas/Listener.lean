/-
  Invariants of the listener machine (Model/Listener.lean), for every history.

  The state has an accept half (`marker`, `scopeCancelled`, `apc`), written only by the accept events, and a close half
  (`sockRef`, `osOpen`, `cpc`), written only by the close events; `closeCall` alone also touches `scopeCancelled`.
-/
import EasyNet.Model.Listener
namespace EasyNet.Lsn

/-- what holds in every reachable state -/
structure Inv (s : St) : Prop where
  marker : s.marker = true ↔ s.apc ≠ .idle
  cancelled : s.scopeCancelled = true → s.marker = true ∧ s.sockRef = false
  closing : s.cpc = .yielded → s.sockRef = false
  released : s.sockRef = false → s.cpc = .yielded ∨ s.osOpen = false
  open_ : s.sockRef = true → s.osOpen = true

theorem Inv.marker_idle {s : St} (h : Inv s) (hi : s.apc = .idle) : s.marker = false :=
  Bool.eq_false_iff.mpr fun hm => h.marker.mp hm hi

theorem Inv.init : Inv St.init :=
  ⟨⟨fun h => (nomatch h), fun h => absurd rfl h⟩, fun h => (nomatch h), fun h => (nomatch h), fun h => (nomatch h),
    fun _ => rfl⟩

theorem Inv.rescope {s : St} (h : Inv s) {m : Bool} {w : APc} (hm : m = true ↔ w ≠ .idle) :
    Inv { s with marker := m, scopeCancelled := false, apc := w } :=
  ⟨hm, fun h' => (nomatch h'), h.closing, h.released, h.open_⟩

theorem Inv.closeEnd {s : St} (h : Inv s) (hy : s.cpc = .yielded) :
    Inv { s with osOpen := false, cpc := .idle } :=
  ⟨h.marker, h.cancelled, fun h' => (nomatch h'), fun _ => .inr rfl, fun hr => (nomatch hr.symm.trans (h.closing hy))⟩

theorem Inv.step {s s' : St} {e : Ev} {o : Option Out} (h : Inv s) (hs : step s e = some (s', o)) : Inv s' := by
  cases e <;> simp only [Lsn.step] at hs
  case acceptCall =>
    split at hs
    · cases hs; exact h
    · split at hs
      · cases hs; exact h
      · split at hs <;> cases hs
        · exact h
        · exact h.rescope (by decide)
  case acceptDone r =>
    split at hs
    · cases r <;> cases hs <;> exact h.rescope (by decide)
    · cases hs
  case scopeDelivered => split at hs <;> cases hs; exact h.rescope (by decide)
  case backoffDone => split at hs <;> cases hs; exact h.rescope (by decide)
  case extCancel => split at hs <;> cases hs; exact h.rescope (by decide)
  case closeCall =>
    split at hs
    · cases hs; exact h
    · split at hs <;> cases hs
      · -- an accept is in progress: the reference is dropped, the scope cancelled, the task parks
        exact ⟨h.marker, fun _ => ⟨‹_›, rfl⟩, fun _ => rfl, fun _ => .inl rfl, fun h' => (nomatch h')⟩
      · -- no accept in progress: closed on the spot
        exact ⟨h.marker, fun hc => ⟨(h.cancelled hc).1, rfl⟩, fun _ => rfl, fun _ => .inr rfl, fun h' => (nomatch h')⟩
  case closeResume => split at hs <;> cases hs; exact h.closeEnd ‹_›
  case closeCancel => split at hs <;> cases hs; exact h.closeEnd ‹_›

theorem Inv.run {s : St} (h : Inv s) : ∀ es : List Ev, Inv (Lsn.run s es)
  | [] => h
  | e :: es => by
    simp only [Lsn.run]
    split
    · exact Inv.run (h.step ‹_›) es
    · exact h.run es

theorem Inv.reachable (es : List Ev) : Inv (Lsn.run St.init es) := Inv.init.run es

end EasyNet.Lsn

import EasyNet.Model.Producer
import EasyNet.Lemmas.RUSpec
namespace EasyNet

theorem firstOcc_of_junction_free (sep p : Bytes) (hsep : sep ≠ [])
    (h : firstOcc sep (p ++ sep.dropLast) = none) : firstOcc sep (p ++ sep) = some p.length := by
  have hpos : 0 < sep.length := List.length_pos_iff.mpr hsep
  have hq : sep.dropLast.length + 1 = sep.length := by rw [List.length_dropLast]; exact Nat.sub_add_cancel hpos
  apply firstOcc_eq_some sep _ p.length hsep (by simp)
  · unfold matchAt
    rw [List.drop_left]
    simp
  · intro j hj
    have hfit : j + sep.length ≤ (p ++ sep.dropLast).length := by rw [List.length_append, ← hq]; omega
    -- the window [j, j+|sep|) lies inside `p ++ sep.dropLast`, a prefix of `p ++ sep`
    have hpre : p ++ sep = (p ++ sep.dropLast) ++ [sep.getLast hsep] := by
      rw [List.append_assoc, List.dropLast_concat_getLast hsep]
    rw [hpre, matchAt_append _ _ _ _ hfit]
    exact firstOcc_none sep _ hsep h j hfit

/-- **What the producer emits is what the receiver cuts out**: a chunk produced for `data` is `p ++ sep` with `p` a payload
    whose first separator occurrence in `p ++ sep` is the appended one (the framing half of `ValidPayload`). -/
theorem AutoSep.produce_valid (sep data b : Bytes) (hsep : sep ≠ []) (h : AutoSep.produce sep data = .chunk b) :
    ∃ p, b = p ++ sep ∧ p ≠ [] ∧ firstOcc sep (p ++ sep) = some p.length := by
  unfold AutoSep.produce at h
  simp only at h
  split at h
  · cases h
  · rename_i hno
    split at h
    · cases h
    · rename_i hne
      injection h with hb
      refine ⟨_, hb.symm, by intro e; apply hne; simp [e], ?_⟩
      apply firstOcc_of_junction_free sep _ hsep
      cases hf : firstOcc sep (stripSuffixes sep data.length data ++ sep.dropLast) with
      | none => rfl
      | some i => rw [hf] at hno; simp at hno

end EasyNet

/-
  read_until (copying path): the stateful generator with its resumed search offset computes the same
  thing as a fresh scan of all accumulated bytes (`RU.spec`).
-/
import EasyNet.Lemmas.RUSpec
import EasyNet.Lemmas.ConsumerSim
namespace EasyNet

/-- `b` = all bytes fed since the generator was created -/
def RU.Inv (sep : Bytes) (limit : Nat) (s : RUState) (b : Bytes) : Prop :=
  (s.started = false ∧ s.buf = [] ∧ b = []) ∨
  (s.started = true ∧ s.buf = b ∧ s.offset ≤ limit ∧ (s.offset = 0 ∨ s.offset + sep.length ≤ b.length + 1) ∧
    ∀ j, j < s.offset → matchAt sep b j = false)

theorem RU.inv_init (sep : Bytes) (limit : Nat) : RU.Inv sep limit RU.init [] := by
  left; exact ⟨rfl, rfl, rfl⟩

theorem RU.loop_spec (sep : Bytes) (limit : Nat) (ke : Bool) (hsep : sep ≠ []) (buffer : Bytes) (offset : Nat)
    (hoff : offset ≤ limit) (hfull : offset = 0 ∨ offset + sep.length ≤ buffer.length + 1) (hno : ∀ j, j < offset → matchAt sep buffer j = false) :
    (RU.loop sep limit ke buffer offset).erase = RU.spec sep limit ke buffer ∧
    ∀ s', RU.loop sep limit ke buffer offset = .need s' → RU.Inv sep limit s' buffer := by
  rw [RU.spec_eq, RU.loop]
  by_cases hlen : offset + sep.length ≤ buffer.length
  · rw [if_pos hlen, show findFrom sep buffer offset = firstOcc sep buffer from
      findIn_resume sep buffer offset _ hsep hno]
    cases hf : firstOcc sep buffer with
    | some i =>
      rw [sepSpec_of_some hf]
      dsimp only
      by_cases hi : i > limit
      · rw [if_pos hi, if_pos (decide_eq_true hi)]; exact ⟨rfl, fun s' h => by cases h⟩
      · rw [if_neg hi, if_neg (mt of_decide_eq_true hi)]; exact ⟨rfl, fun s' h => by cases h⟩
    | none =>
      rw [sepSpec_of_none hf]
      dsimp only
      by_cases hl : buffer.length + 1 - sep.length > limit
      · rw [if_pos hl, if_pos (decide_eq_true hl)]; exact ⟨rfl, fun s' h => by cases h⟩
      · rw [if_neg hl, if_neg (mt of_decide_eq_true hl)]
        refine ⟨rfl, fun s' h => ?_⟩
        injection h with h
        subst h
        have hsl : sep.length ≤ buffer.length + 1 := Nat.le_succ_of_le (Nat.le_trans (Nat.le_add_left ..) hlen)
        exact Or.inr ⟨rfl, rfl, Nat.le_of_not_gt hl, Or.inr (Nat.le_of_eq (Nat.sub_add_cancel hsl)),
          fun j hj => firstOcc_none sep buffer hsep hf j (Nat.le_of_lt_succ (Nat.add_lt_of_lt_sub hj))⟩
  · -- too short to search: no separator yet, and the previous test against the limit still stands
    have hshort : buffer.length < offset + sep.length := Nat.lt_of_not_le hlen
    rw [if_neg hlen, sepSpec_of_none (firstOcc_eq_none_of_short sep buffer offset hno hshort),
      if_neg (fun h => Nat.not_le_of_gt (of_decide_eq_true h) (Nat.le_trans (Nat.sub_le_of_le_add hshort) hoff))]
    refine ⟨rfl, fun s' h => ?_⟩
    injection h with h
    subst h
    exact Or.inr ⟨rfl, rfl, hoff, hfull, hno⟩

theorem RU.feed_spec (sep : Bytes) (limit : Nat) (ke : Bool) (hsep : sep ≠ []) (s : RUState) (b c : Bytes)
    (h : RU.Inv sep limit s b) :
    (RU.feed sep limit ke s c).erase = RU.spec sep limit ke (b ++ c) ∧
    ∀ s', RU.feed sep limit ke s c = .need s' → RU.Inv sep limit s' (b ++ c) := by
  have hpos : 0 < sep.length := List.length_pos_iff.mpr hsep
  rw [RU.feed]
  rcases h with ⟨hst, hbuf0, rfl⟩ | ⟨hst, hbuf, hoff, hfull, hno⟩
  · -- still in the first `while not buffer:` loop
    rw [hst, if_neg Bool.false_ne_true, List.nil_append]
    cases c with
    | nil =>
      rw [List.isEmpty_nil, if_pos rfl, RU.spec_eq, sepSpec_of_none (firstOcc_none_nil sep hsep),
        if_neg (fun h => by
          have h := of_decide_eq_true h
          rw [List.length_nil, Nat.zero_add, Nat.sub_eq_zero_of_le hpos] at h
          exact Nat.not_lt_zero _ h)]
      exact ⟨rfl, fun s' hs' => by injection hs' with hs'; subst hs'; exact Or.inl ⟨hst, hbuf0, rfl⟩⟩
    | cons x xs =>
      rw [List.isEmpty_cons, if_neg Bool.false_ne_true]
      exact RU.loop_spec sep limit ke hsep _ 0 (Nat.zero_le _) (Or.inl rfl) (fun j hj => absurd hj (Nat.not_lt_zero _))
  · rw [hst, if_pos rfl, hbuf]
    refine RU.loop_spec sep limit ke hsep (b ++ c) s.offset hoff ?_ (fun j hj => ?_)
    · rw [List.length_append]
      exact hfull.imp id fun h => Nat.le_trans h (Nat.succ_le_succ (Nat.le_add_right ..))
    · rw [matchAt_append _ _ _ _ (by omega)]; exact hno j hj

theorem RU.inv_buf (sep : Bytes) (limit : Nat) (s : RUState) (b : Bytes) (h : RU.Inv sep limit s b) : s.buf = b := by
  rcases h with ⟨_, h1, h2⟩ | ⟨_, h1, _⟩
  · rw [h1, h2]
  · exact h1

theorem RU.refines (sep : Bytes) (limit : Nat) (ke : Bool) (hsep : sep ≠ []) :
    Refines RU.init (RU.feed sep limit ke) (RU.spec sep limit ke) (RU.Inv sep limit) :=
  ⟨RU.inv_init sep limit, fun s b c h => RU.feed_spec sep limit ke hsep s b c h⟩

end EasyNet

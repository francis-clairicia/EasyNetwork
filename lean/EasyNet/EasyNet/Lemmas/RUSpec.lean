/-
  Separator framing as a function of the accumulated bytes.  `RU.spec` (copying path) and `BRU.spec` (buffered path)
  differ only in their two size tests, so both are instances of `sepSpec`, for which the `SpecLaws` and the verdict on
  a well-delimited frame at the head of the data are proved once.  Then the instance `RU.spec`.
-/
import EasyNet.Lemmas.Find
import EasyNet.Lemmas.ChunkIndep
namespace EasyNet

theorem stripToSepPrefix_length_le (sep r : Bytes) : (stripToSepPrefix sep r).length ≤ r.length := by
  induction r with
  | nil => simp [stripToSepPrefix]
  | cons x xs ih =>
    unfold stripToSepPrefix
    split
    · exact Nat.le_refl _
    · exact Nat.le_succ_of_le ih

theorem limitRemainder_length_le (b : Bytes) (k : Nat) (sep : Bytes) :
    (limitRemainder b k sep).length ≤ b.length - k := by
  unfold limitRemainder
  split
  · exact Nat.le_of_eq (List.length_drop ..)
  · split
    · rw [List.length_drop, List.length_drop]; exact Nat.sub_le ..
    · exact Nat.le_trans (stripToSepPrefix_length_le sep _) (Nat.le_of_eq (List.length_drop ..))

theorem limitRemainder_found (sep b : Bytes) (i : Nat) (hsep : sep ≠ []) (hm : matchAt sep b i = true) :
    limitRemainder b i sep = b.drop (i + sep.length) := by
  unfold matchAt at hm
  simp [limitRemainder, hsep, hm]

/-- Separator framing with the two size tests as parameters: a frame whose separator starts at `i` is rejected
    when `rej i`; `n` bytes without separator are too many when `over n`. -/
def sepSpec (sep : Bytes) (ke : Bool) (rej over : Nat → Bool) (b : Bytes) : SRes :=
  match firstOcc sep b with
  | some i =>
    if rej i then .fail (limitRemainder b i sep)
    else .done (b.take (if ke then i + sep.length else i)) (b.drop (i + sep.length))
  | none =>
    if over b.length then .fail (limitRemainder b (b.length + 1 - sep.length) sep) else .need

/-- the frame data, with or without its separator, ends where the separator ends at the latest -/
theorem cut_le {ke : Bool} {i s n : Nat} (h : i + s ≤ n) : (if ke then i + s else i) ≤ n := by
  split
  · exact h
  · exact Nat.le_trans (Nat.le_add_right ..) h

theorem RU.spec_eq (sep : Bytes) (limit : Nat) (ke : Bool) :
    RU.spec sep limit ke = sepSpec sep ke (fun i => i > limit) (fun n => n + 1 - sep.length > limit) := by
  funext b
  unfold RU.spec sepSpec
  cases firstOcc sep b <;> simp

theorem BRU.spec_eq (sep : Bytes) (cap : Nat) (ke : Bool) :
    BRU.spec sep cap ke = sepSpec sep ke (fun _ => false) (fun n => n + 2 > cap ∧ sep.length ≤ n) := by
  funext b
  unfold BRU.spec sepSpec
  cases firstOcc sep b <;> simp

section
variable {sep : Bytes} {ke : Bool} {rej over : Nat → Bool} {b : Bytes}

theorem sepSpec_of_some {i : Nat} (h : firstOcc sep b = some i) :
    sepSpec sep ke rej over b =
      if rej i then .fail (limitRemainder b i sep)
      else .done (b.take (if ke then i + sep.length else i)) (b.drop (i + sep.length)) := by
  rw [sepSpec, h]

theorem sepSpec_of_none (h : firstOcc sep b = none) :
    sepSpec sep ke rej over b =
      if over b.length then .fail (limitRemainder b (b.length + 1 - sep.length) sep) else .need := by
  rw [sepSpec, h]

theorem sepSpec_done {d r : Bytes} (h : sepSpec sep ke rej over b = .done d r) :
    ∃ i, firstOcc sep b = some i ∧ rej i = false ∧ d = b.take (if ke then i + sep.length else i) ∧
      r = b.drop (i + sep.length) := by
  cases hf : firstOcc sep b with
  | none => rw [sepSpec_of_none hf] at h; split at h <;> cases h
  | some i =>
    rw [sepSpec_of_some hf] at h
    split at h
    · cases h
    · injection h with hd hr; exact ⟨i, rfl, Bool.eq_false_iff.mpr ‹_›, hd.symm, hr.symm⟩

theorem sepSpec_need (h : sepSpec sep ke rej over b = .need) : firstOcc sep b = none ∧ over b.length = false := by
  cases hf : firstOcc sep b with
  | none =>
    rw [sepSpec_of_none hf] at h
    split at h
    · cases h
    · exact ⟨rfl, Bool.eq_false_iff.mpr ‹_›⟩
  | some i => rw [sepSpec_of_some hf] at h; split at h <;> cases h

theorem sepSpec_fail (hsep : sep ≠ []) {r : Bytes} (h : sepSpec sep ke rej over b = .fail r) :
    (∃ i, firstOcc sep b = some i ∧ rej i = true ∧ r = b.drop (i + sep.length)) ∨
    (firstOcc sep b = none ∧ over b.length = true ∧ r = limitRemainder b (b.length + 1 - sep.length) sep) := by
  cases hf : firstOcc sep b with
  | none =>
    rw [sepSpec_of_none hf] at h
    split at h
    · injection h with hr; exact Or.inr ⟨rfl, ‹_›, hr.symm⟩
    · cases h
  | some i =>
    rw [sepSpec_of_some hf] at h
    split at h
    · injection h with hr
      exact Or.inl ⟨i, rfl, ‹_›, by rw [← hr, limitRemainder_found sep b i hsep (firstOcc_some _ _ _ hf).2.1]⟩
    · cases h

theorem sepSpec_out (hsep : sep ≠ []) {it : Item} {r : Bytes} (h : (sepSpec sep ke rej over b).out = some (it, r)) :
    (∃ i, firstOcc sep b = some i ∧ r = b.drop (i + sep.length)) ∨
    (firstOcc sep b = none ∧ r = limitRemainder b (b.length + 1 - sep.length) sep) := by
  cases hs : sepSpec sep ke rej over b with
  | need => rw [hs] at h; cases h
  | done d r' =>
    obtain ⟨i, hf, _, _, hr⟩ := sepSpec_done hs
    rw [hs] at h; injection h with h; injection h with _ h
    exact Or.inl ⟨i, hf, h ▸ hr⟩
  | fail r' =>
    rw [hs] at h; injection h with h; injection h with _ h
    rcases sepSpec_fail hsep hs with ⟨i, hf, _, hr⟩ | ⟨hf, _, hr⟩
    · exact Or.inl ⟨i, hf, h ▸ hr⟩
    · exact Or.inr ⟨hf, h ▸ hr⟩

end

theorem sepSpec_prog {sep : Bytes} {ke : Bool} {rej over : Nat → Bool} (hsep : sep ≠ [])
    (over_sep : ∀ n, over n = true → sep.length ≤ n) : ProgLaws (sepSpec sep ke rej over) := by
  have hpos : 0 < sep.length := List.length_pos_iff.mpr hsep
  have hdrop : ∀ (b : Bytes) i, firstOcc sep b = some i → (b.drop (i + sep.length)).length < b.length := by
    intro b i hf
    have hi := (firstOcc_some _ _ _ hf).1
    rw [List.length_drop]
    exact Nat.sub_lt (Nat.lt_of_lt_of_le (Nat.add_pos_right i hpos) hi) (Nat.add_pos_right i hpos)
  constructor
  · intro b d r h
    obtain ⟨i, hf, _, _, rfl⟩ := sepSpec_done h
    exact hdrop b i hf
  · intro b r h
    rcases sepSpec_fail hsep h with ⟨i, hf, _, rfl⟩ | ⟨_, hov, rfl⟩
    · exact hdrop b i hf
    · have := limitRemainder_length_le b (b.length + 1 - sep.length) sep
      have := over_sep _ hov
      omega

/-- What the laws ask of the size tests, for frames satisfying `ok`: giving up is monotone in the amount of
    unterminated data and happens only once a separator would fit; and data that can still grow into an accepted
    `ok` frame is not given up on. -/
structure SepTests (sep : Bytes) (ke : Bool) (rej over : Nat → Bool) (ok : Bytes → Prop) : Prop where
  over_mono : ∀ n m, n ≤ m → over n = true → over m = true
  over_sep : ∀ n, over n = true → sep.length ≤ n
  ok_room : ∀ d i n, ok d → rej i = false → d.length = (if ke then i + sep.length else i) → n < i + sep.length →
    over n = false

theorem sepSpec_laws {sep : Bytes} {ke : Bool} {rej over : Nat → Bool} {ok : Bytes → Prop} (hsep : sep ≠ [])
    (T : SepTests sep ke rej over ok) : SpecLaws (sepSpec sep ke rej over) ok := by
  have P := sepSpec_prog (ke := ke) (rej := rej) hsep T.over_sep
  refine ⟨P.progress_done, P.progress_fail, ?_, ?_, ?_⟩
  · intro b x d r h
    obtain ⟨i, hf, hrej, rfl, rfl⟩ := sepSpec_done h
    have := (firstOcc_some _ _ _ hf).1
    rw [sepSpec_of_some (firstOcc_append_some sep b x i hsep hf), hrej, if_neg Bool.false_ne_true,
      List.take_append_of_le_length (cut_le this), List.drop_append_of_le_length this]
  · intro b x h
    obtain ⟨hf, hov⟩ := sepSpec_need h
    rw [sepSpec_of_none (firstOcc_prefix_none sep b x hsep hf)]
    cases hb : over b.length with
    | false => rfl
    | true => rw [T.over_mono _ _ (by simp) hb] at hov; cases hov
  · intro b x d r h hok r' hb
    obtain ⟨i, hf, hrej, rfl, _⟩ := sepSpec_done h
    have hi := (firstOcc_some _ _ _ hf).1
    rcases sepSpec_fail hsep hb with ⟨i', hf', hrej', _⟩ | ⟨hnone, hov, _⟩
    · -- the prefix already holds the same frame, which is accepted
      rw [firstOcc_append_some sep b x i' hsep hf'] at hf
      injection hf with hf; rw [hf, hrej] at hrej'; cases hrej'
    · rw [T.ok_room _ i b.length hok hrej (List.length_take_of_le (cut_le hi))
        (firstOcc_prefix_short sep b x i hsep hf hnone)] at hov
      cases hov

/-- a payload that the receiver will cut out exactly: the first occurrence of the separator in
    `p ++ sep` is the appended one (for a separator without self-overlap: `sep` does not occur in `p`),
    and the payload is within the limit -/
def ValidPayload (sep : Bytes) (limit : Nat) (p : Bytes) : Prop :=
  firstOcc sep (p ++ sep) = some p.length ∧ p.length ≤ limit

instance (sep : Bytes) (limit : Nat) (p : Bytes) : Decidable (ValidPayload sep limit p) := by
  unfold ValidPayload; infer_instance

def encodeFrames (sep : Bytes) (ps : List Bytes) : Bytes := (ps.map (· ++ sep)).flatten

def frameOf (sep : Bytes) (ke : Bool) (p : Bytes) : Item := .frame (if ke then p ++ sep else p)

theorem sepSpec_frame {sep : Bytes} {ke : Bool} {rej over : Nat → Bool} (hsep : sep ≠ []) (p rest : Bytes)
    (hfirst : firstOcc sep (p ++ sep) = some p.length) :
    sepSpec sep ke rej over (p ++ sep ++ rest) =
      if rej p.length then .fail rest else .done (if ke then p ++ sep else p) rest := by
  have hf := firstOcc_append_some sep (p ++ sep) rest p.length hsep hfirst
  rw [sepSpec_of_some hf, limitRemainder_found sep _ _ hsep (firstOcc_some _ _ _ hf).2.1]
  have hl : p.length + sep.length = (p ++ sep).length := by simp
  rw [hl, List.drop_left]
  cases ke
  · simp [List.append_assoc]
  · simp only [if_true]; rw [List.take_left]

theorem RU.spec_laws (sep : Bytes) (limit : Nat) (ke : Bool) (hsep : sep ≠ []) :
    SpecLaws (RU.spec sep limit ke) := by
  rw [RU.spec_eq]
  refine sepSpec_laws hsep ⟨?_, ?_, ?_⟩
  · intro n m hnm h
    exact decide_eq_true (Nat.lt_of_lt_of_le (of_decide_eq_true h) (Nat.sub_le_sub_right (Nat.succ_le_succ hnm) _))
  · intro n h; have := of_decide_eq_true h; omega
  · -- `n + 1 - |sep| ≤ i ≤ limit`
    intro d i n _ hrej _ hn
    exact decide_eq_false (Nat.not_lt.mpr (Nat.le_trans (Nat.sub_le_of_le_add (Nat.succ_le_of_lt hn))
      (Nat.not_lt.mp (of_decide_eq_false hrej))))

theorem RU.spec_frame (sep : Bytes) (limit : Nat) (ke : Bool) (hsep : sep ≠ []) (p rest : Bytes)
    (hv : ValidPayload sep limit p) :
    RU.spec sep limit ke (p ++ sep ++ rest) = .done (if ke then p ++ sep else p) rest := by
  rw [RU.spec_eq, sepSpec_frame hsep p rest hv.1, if_neg (by simpa using hv.2)]

theorem RU.decode_frames (sep : Bytes) (limit : Nat) (ke : Bool) (hsep : sep ≠ []) (ps : List Bytes)
    (hv : ∀ p ∈ ps, ValidPayload sep limit p) :
    decodeW (RU.spec sep limit ke) (encodeFrames sep ps) = ([], ps.map (frameOf sep ke)) :=
  (RU.spec_laws sep limit ke hsep).prog.decodeW_map_frames (· ++ sep) (fun p => if ke then p ++ sep else p) ps
    fun p hp rest => RU.spec_frame sep limit ke hsep p rest (hv p hp)

end EasyNet

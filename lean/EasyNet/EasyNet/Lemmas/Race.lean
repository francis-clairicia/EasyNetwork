/-
  The connection race (Model/Race.lean) step by step: what a step does to the state (`Move`, `step_spec`),
  the inductive invariant `Inv` and what it says once the race is over.
-/
import EasyNet.Model.Race
namespace EasyNet.Race

/-- no exception has been raised out of the race (so the winner has not been closed) -/
def St.notRaised (s : St) : Prop := ∀ r, s.fin ≠ some (.raised r)

structure Inv (cfg : Cfg) (s : St) : Prop where
  /-- the open sockets are exactly those of the attempts suspended in `connect_socket`, plus the winner -/
  opn : ∀ k, (s.ch k).sock = .opened ↔ ((s.ch k).pc = .connecting ∨ (s.winner = some k ∧ s.notRaised))
  win : ∀ w, s.winner = some w → (s.ch w).pc = .done
  ret : ∀ w, s.fin = some (.ret w) → s.winner = some w
  fin : s.fin.isSome → ∀ k, (s.ch k).pc ≠ .connecting
  nxt : ∀ k, s.next ≤ k → (s.ch k).pc = .unspawned
  bnd : s.next ≤ cfg.n

@[simp] theorem setCh_ch (s : St) (k j : Nat) (c : Child) :
    (s.setCh k c).ch j = if j = k then c else s.ch j := rfl
@[simp] theorem setCh_winner (s : St) (k : Nat) (c : Child) : (s.setCh k c).winner = s.winner := rfl
@[simp] theorem setCh_fin (s : St) (k : Nat) (c : Child) : (s.setCh k c).fin = s.fin := rfl
@[simp] theorem setCh_next (s : St) (k : Nat) (c : Child) : (s.setCh k c).next = s.next := rfl
@[simp] theorem setCh_ext (s : St) (k : Nat) (c : Child) : (s.setCh k c).ext = s.ext := rfl
@[simp] theorem setCh_crashed (s : St) (k : Nat) (c : Child) : (s.setCh k c).crashed = s.crashed := rfl
@[simp] theorem setCh_errors (s : St) (k : Nat) (c : Child) : (s.setCh k c).errors = s.errors := rfl

theorem quiet_iff {s : St} {n : Nat} : s.quiet n = true ↔ ∀ k, k < n →
    (s.ch k).pc = .done ∨ (s.ch k).pc = .unspawned ∨ ((s.ch k).pc = .spawned ∧ s.abortable = true) := by
  simp [St.quiet, or_assoc]

theorem allDone_iff {s : St} {n : Nat} : s.allDone n = true ↔ ∀ k, k < n → (s.ch k).pc = .done := by
  simp [St.allDone]

theorem beginRes_errors_pos {locals : Option (List Loc)} {a : Addr} (h : beginRes locals a ≠ .connecting) :
    1 ≤ (beginRes locals a).errors := by
  refine Or.resolve_left ?_ h
  unfold beginRes
  by_cases hs : ¬a.sockOk = true
  · rw [if_pos hs]; exact .inr (Nat.le_refl 1)
  rw [if_neg hs]
  cases locals with
  | none => exact .inl rfl
  | some ls =>
    dsimp only
    by_cases hb : (bindLoop a.fam 0 ls).2 = true
    · rw [if_pos hb]; exact .inl rfl
    rw [if_neg hb]
    by_cases he : (bindLoop a.fam 0 ls).1.isEmpty = true
    · rw [if_pos he]; exact .inr (Nat.le_refl 1)
    rw [if_neg he]
    exact .inr (List.length_pos_iff.mpr (by simpa using he))

def rank : Pc → Nat
  | .unspawned => 3 | .spawned => 2 | .connecting => 1 | .done => 0

theorem ne_done_of_rank_lt {p q : Pc} (h : rank q < rank p) : p ≠ .done := by
  rintro rfl; exact Nat.not_lt_zero _ h

theorem ne_unspawned_of_rank_lt {p q : Pc} (h : rank q < rank p) : q ≠ .unspawned := by
  rintro rfl; cases p <;> exact absurd h (by decide)

/-- The coroutine is left with an exception: the winner, if one was elected, is closed on the way out.
    (`step` spells this out as a `match` on `s.winner` in each of its raising branches.) -/
def St.raise (s : St) (r : RaiseKind) : St :=
  { s with ch := fun j => if s.winner = some j then ⟨.done, .closed⟩ else s.ch j, fin := some (.raised r) }

theorem raise_eq (s : St) (r : RaiseKind) :
    (match s.winner with
      | some w => some { s.setCh w ⟨.done, .closed⟩ with fin := some (.raised r) }
      | none => some { s with fin := some (.raised r) }) = some (s.raise r) := by
  unfold St.raise St.setCh
  split <;> rename_i hw <;> simp [hw, eq_comm]

/-- The steps other than the caller's `cancel`, by what they do to the state (guards that no proof uses are dropped). -/
inductive Move (cfg : Cfg) (s : St) : St → Prop
  | spawn : s.next < cfg.n → Move cfg s { s.setCh s.next ⟨.spawned, .none⟩ with next := s.next + 1 }
  /-- child `k` advances to `c` without becoming the winner; on the way it leaves `e` errors, crashes (`cr`) or
      sees its cancellation (`ab`); if it is done now without any of these and without a winner, it left an error -/
  | child (k : Nat) (c : Child) (e : Nat) (cr ab : Bool) :
      (s.ch k).pc ≠ .unspawned → rank c.pc < rank (s.ch k).pc → (c.sock = .opened ↔ c.pc = .connecting) →
      (c.pc = .done → s.winner = none → cr = false → ab = false → 1 ≤ e) → (ab = true → s.abortable = true) →
      Move cfg s { s.setCh k c with errors := s.errors + e, crashed := cr || s.crashed, aborted := ab || s.aborted }
  | win (k : Nat) : (s.ch k).pc = .connecting → s.winner = none →
      Move cfg s { s.setCh k ⟨.done, .opened⟩ with winner := some k }
  | ret (w : Nat) : s.quiet cfg.n = true → s.winner = some w → Move cfg s { s with fin := some (.ret w) }
  | raise (r : RaiseKind) : s.quiet cfg.n = true →
      (∀ m, r = .allfailed m → m = s.errors ∧ s.winner = none ∧ s.crashed = false ∧ s.aborted = false ∧
        s.allDone cfg.n = true) →
      Move cfg s (s.raise r)

theorem Move.ended {cfg : Cfg} {s : St} (k : Nat) (x : Sock) (e : Nat) (cr ab : Bool)
    (hp : (s.ch k).pc = .spawned ∨ (s.ch k).pc = .connecting) (hx : x ≠ .opened)
    (why : s.winner = none → cr = false → ab = false → 1 ≤ e) (hab : ab = true → s.abortable = true) :
    Move cfg s
      { s.setCh k ⟨.done, x⟩ with errors := s.errors + e, crashed := cr || s.crashed, aborted := ab || s.aborted } :=
  .child k _ e cr ab (by rcases hp with h | h <;> simp [h]) (by rcases hp with h | h <;> simp [h, rank])
    (by simp [hx]) (fun _ => why) hab

theorem step_spec {cfg : Cfg} {s s' : St} {l : Label} (h : step cfg s l = some s') :
    s.fin = none ∧ (l = .cancel ∧ s' = { s with ext := true } ∨ l ≠ .cancel ∧ Move cfg s s') := by
  have isNone {g : Prop} (h : s.fin.isNone = true ∧ g) : s.fin = none := Option.isNone_iff_eq_none.mp h.1
  cases l with
  | spawn =>
    simp only [step, Option.ite_none_right_eq_some, Option.some.injEq] at h
    obtain ⟨g, rfl⟩ := h
    exact ⟨isNone g, .inr ⟨nofun, .spawn g.2.1⟩⟩
  | begin k =>
    simp only [step, Option.ite_none_right_eq_some] at h
    obtain ⟨g, h⟩ := h
    refine ⟨isNone g, .inr ⟨nofun, ?_⟩⟩
    split at h <;> cases h
    · exact .child k ⟨.connecting, .opened⟩ 0 false false (by simp [g.2]) (by simp [g.2, rank]) (by simp) nofun nofun
    · exact .ended k .none 1 false false (.inl g.2) nofun (fun _ _ _ => Nat.le_refl 1) nofun
    · rename_i hb _
      exact .ended k .closed _ false false (.inl g.2) nofun (fun _ _ _ => beginRes_errors_pos hb) nofun
  | res k r =>
    simp only [step, Option.ite_none_right_eq_some] at h
    obtain ⟨g, h⟩ := h
    refine ⟨isNone g, .inr ⟨nofun, ?_⟩⟩
    cases r <;> simp only [Option.ite_none_right_eq_some, Option.some.injEq] at h
    · obtain ⟨_, h⟩ := h
      split at h <;> cases h
      · rename_i hw; exact .win k g.2 hw
      · rename_i w hw
        exact .ended k .closed 0 false false (.inr g.2) nofun (fun h => nomatch hw.symm.trans h) nofun
    · obtain ⟨_, rfl⟩ := h
      exact .ended k .closed 1 false false (.inr g.2) nofun (fun _ _ _ => Nat.le_refl 1) nofun
    · obtain ⟨_, rfl⟩ := h
      exact .ended k .closed 0 true false (.inr g.2) nofun nofun nofun
    · obtain ⟨hab, rfl⟩ := h
      exact .ended k .closed 0 false true (.inr g.2) nofun nofun fun _ => hab
  | cancel =>
    simp only [step, Option.ite_none_right_eq_some, Option.some.injEq] at h
    exact ⟨Option.isNone_iff_eq_none.mp h.1, .inl ⟨rfl, h.2.symm⟩⟩
  | fin f =>
    simp only [step, Option.ite_none_right_eq_some] at h
    obtain ⟨g, h⟩ := h
    refine ⟨isNone g, .inr ⟨nofun, ?_⟩⟩
    cases f <;> simp only [Option.ite_none_right_eq_some, Option.some.injEq] at h
    · split at h
      · rename_i w hw; split at h <;> cases h; exact .ret w g.2 hw
      · cases h
    · obtain ⟨g3, rfl⟩ := h
      have hw : s.winner = none := by simpa using g3.1
      have e := raise_eq s (.allfailed s.errors)
      split at e
      · rename_i w hw'; exact nomatch hw.symm.trans hw'
      rw [Option.some.inj e]
      refine .raise _ g.2 fun m hm => ?_
      cases hm
      exact ⟨rfl, hw, by simpa using g3.2.1, by simpa using g3.2.2.1, g3.2.2.2.2⟩
    · obtain rfl := Option.some.inj ((raise_eq s _).symm.trans h.2); exact .raise _ g.2 nofun
    · obtain rfl := Option.some.inj ((raise_eq s _).symm.trans h.2); exact .raise _ g.2 nofun

theorem run_cons {cfg : Cfg} {s s' : St} {l : Label} {ls : List Label} :
    run cfg s (l :: ls) = some s' ↔ ∃ s1, step cfg s l = some s1 ∧ run cfg s1 ls = some s' := by
  rw [run]
  cases step cfg s l <;> simp

theorem run_inv {cfg : Cfg} {P : St → Prop} (hP : ∀ {s l s'}, P s → step cfg s l = some s' → P s')
    (ls : List Label) {s s' : St} (h0 : P s) (h : run cfg s ls = some s') : P s' := by
  induction ls generalizing s with
  | nil => cases h; exact h0
  | cons l ls ih =>
    obtain ⟨s1, h1, h⟩ := run_cons.mp h
    exact ih (hP h0 h1) h

theorem inv_init (cfg : Cfg) : Inv cfg St.init := by
  refine ⟨?_, ?_, ?_, ?_, ?_, ?_⟩ <;> simp [St.init, St.notRaised]

theorem Inv.lt_next {cfg : Cfg} {s : St} (I : Inv cfg s) {k : Nat} (h : (s.ch k).pc ≠ .unspawned) : k < s.next :=
  Nat.lt_of_not_le fun hc => h (I.nxt k hc)

theorem no_connecting_of_quiet {cfg : Cfg} {s : St} (I : Inv cfg s) (h : s.quiet cfg.n = true) (k : Nat) :
    (s.ch k).pc ≠ .connecting := fun hc => by
  have := quiet_iff.mp h k (Nat.lt_of_lt_of_le (I.lt_next (by simp [hc])) I.bnd)
  simp [hc] at this

theorem Inv.update {cfg : Cfg} {s : St} {k nx e : Nat} {c : Child} {cr ab : Bool} (I : Inv cfg s) (hf : s.fin = none)
    (hd : (s.ch k).pc ≠ .done) (hc : c.sock = .opened ↔ c.pc = .connecting)
    (hk : k < nx) (hn : s.next ≤ nx) (hb : nx ≤ cfg.n) :
    Inv cfg { s.setCh k c with next := nx, errors := e, crashed := cr, aborted := ab } := by
  have hw : s.winner ≠ some k := fun hw => hd (I.win k hw)
  refine ⟨fun j => ?_, fun w hw' => ?_, fun w hr => ?_, fun h => ?_, fun j hj => ?_, hb⟩
  · by_cases hj : j = k
    · subst hj; simpa [hw] using hc
    · simpa [hj, St.notRaised] using I.opn j
  · rw [setCh_ch, if_neg (by rintro rfl; exact hw hw')]
    exact I.win w hw'
  · exact nomatch hf.symm.trans hr
  · exact nomatch hf ▸ h
  · rw [setCh_ch, if_neg (Nat.ne_of_gt (Nat.lt_of_lt_of_le hk hj))]
    exact I.nxt j (Nat.le_trans hn hj)

theorem Inv.move {cfg : Cfg} {s s' : St} (I : Inv cfg s) (hf : s.fin = none) (m : Move cfg s s') : Inv cfg s' := by
  cases m with
  | spawn hn =>
    have hp := I.nxt s.next (Nat.le_refl _)
    exact I.update hf (by simp [hp]) (by simp) (Nat.lt_succ_self _) (Nat.le_succ _) hn
  | child k c e cr ab hp hr hc _ _ =>
    exact I.update hf (ne_done_of_rank_lt hr) hc (I.lt_next hp) (Nat.le_refl _) I.bnd
  | win k hk hw =>
    have hlt : k < s.next := I.lt_next (by simp [hk])
    refine ⟨fun j => ?_, fun w hw' => ?_, fun w hr => ?_, fun h => ?_, fun j hj => ?_, I.bnd⟩
    · by_cases hj : j = k
      · subst hj; simp [St.notRaised, hf]
      · have hkj : k ≠ j := fun e => hj e.symm
        simpa [hj, hkj, St.notRaised, hw, hf] using I.opn j
    · cases hw'; simp
    · exact nomatch hf.symm.trans hr
    · exact nomatch hf ▸ h
    · have : j ≠ k := Nat.ne_of_gt (Nat.lt_of_lt_of_le hlt hj)
      simpa [this] using I.nxt j hj
  | ret w hq hw =>
    have hnc := no_connecting_of_quiet I hq
    refine ⟨fun j => ?_, I.win, fun w' hr => ?_, fun _ => hnc, I.nxt, I.bnd⟩
    · simpa [St.notRaised, hf] using I.opn j
    · cases hr; exact hw
  | raise r hq _ =>
    have hnc := no_connecting_of_quiet I hq
    refine ⟨fun j => ?_, fun w hw => ?_, nofun, fun _ j => ?_, fun j hj => ?_, I.bnd⟩
    · have := I.opn j
      by_cases hj : s.winner = some j
      · simp [St.raise, St.notRaised, hj]
      · simpa [St.raise, St.notRaised, hj, hnc j] using this
    · simp [St.raise, show s.winner = some w from hw]
    · by_cases hj : s.winner = some j <;> simp [St.raise, hj, hnc j]
    · have : s.winner ≠ some j := fun hw => by have := I.win j hw; rw [I.nxt j hj] at this; cases this
      simpa [St.raise, this] using I.nxt j hj

theorem inv_step {cfg : Cfg} {s s' : St} (l : Label) (I : Inv cfg s) (h : step cfg s l = some s') : Inv cfg s' := by
  obtain ⟨hf, ⟨-, rfl⟩ | ⟨-, m⟩⟩ := step_spec h
  · exact ⟨I.opn, I.win, I.ret, I.fin, I.nxt, I.bnd⟩
  · exact I.move hf m

theorem inv_run {cfg : Cfg} (ls : List Label) {s s' : St} (I : Inv cfg s) (h : run cfg s ls = some s') : Inv cfg s' :=
  run_inv (inv_step _) ls I h

theorem inv_reachable {cfg : Cfg} {s : St} (h : Reachable cfg s) : Inv cfg s := by
  obtain ⟨ls, h⟩ := h
  exact inv_run ls (inv_init cfg) h

theorem Inv.open_after_end {cfg : Cfg} {s : St} (I : Inv cfg s) (hf : s.fin ≠ none) (k : Nat) :
    (s.ch k).sock = .opened ↔ s.fin = some (.ret k) := by
  rw [I.opn k]
  have hnc := I.fin (Option.isSome_iff_ne_none.mpr hf) k
  constructor
  · rintro (hc | ⟨hw, hnr⟩)
    · exact absurd hc hnc
    · match hfin : s.fin with
      | none => exact absurd hfin hf
      | some (.raised r) => exact absurd hfin (hnr r)
      | some (.ret w) => have := I.ret w hfin; rw [hw] at this; cases this; rfl
  · intro hr
    exact .inr ⟨I.ret k hr, fun r h => by rw [hr] at h; cases h⟩

theorem only_returned {f : Option Fin} {opened : Nat → Prop} (h : f ≠ none → ∀ k, opened k ↔ f = some (.ret k)) :
    (∀ w, f = some (.ret w) → ∀ k, opened k ↔ k = w) ∧ ∀ r, f = some (.raised r) → ∀ k, ¬opened k := by
  constructor
  · rintro w rfl k
    exact (h nofun k).trans ⟨fun e => by cases e; rfl, fun e => by rw [e]⟩
  · rintro r rfl k ho
    exact nomatch (h nofun k).mp ho

end EasyNet.Race

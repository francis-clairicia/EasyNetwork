/-
  The connection race comes to an end: the bookkeeping invariant `Inv2`, the error count of a total failure,
  the termination measure, progress.
-/
import EasyNet.Lemmas.Race
namespace EasyNet.Race

structure Inv2 (cfg : Cfg) (s : St) : Prop where
  /-- children below `next` have been spawned -/
  spw : ∀ k, k < s.next → (s.ch k).pc ≠ .unspawned
  /-- a child is only ever cancelled when the task group had a reason to abort -/
  abt : s.aborted = true → s.abortable = true
  /-- as long as nobody won, crashed or was cancelled, every finished attempt left an error -/
  err : s.winner = none → s.crashed = false → s.aborted = false → ∀ k, (s.ch k).pc = .done → 1 ≤ s.errors

theorem inv2_init (cfg : Cfg) : Inv2 cfg St.init := by
  refine ⟨?_, ?_, ?_⟩ <;> simp [St.init]

theorem setCh_pc_ne_unspawned {s : St} {k j : Nat} {c : Child} (hc : c.pc ≠ .unspawned)
    (hj : j ≠ k → (s.ch j).pc ≠ .unspawned) : ((s.setCh k c).ch j).pc ≠ .unspawned := by
  rw [setCh_ch]
  split
  · exact hc
  · exact hj ‹_›

theorem Inv2.move {cfg : Cfg} {s s' : St} (J : Inv2 cfg s) (m : Move cfg s s') : Inv2 cfg s' := by
  obtain ⟨spw, abt, err⟩ := J
  cases m with
  | spawn _ =>
    refine ⟨fun j hj => setCh_pc_ne_unspawned nofun fun hjn => spw j (Nat.lt_of_le_of_ne (Nat.le_of_lt_succ hj) hjn),
      abt, fun h1 h2 h3 j hj => err h1 h2 h3 j ?_⟩
    by_cases hjn : j = s.next
    · simp [hjn] at hj
    · simpa [hjn] using hj
  | child k c e cr ab _ hr _ why hab =>
    refine ⟨fun j hj => setCh_pc_ne_unspawned (ne_unspawned_of_rank_lt hr) fun _ => spw j hj, fun h => ?_,
      fun h1 h2 h3 j hj => ?_⟩
    · have : s.abortable = true := (Bool.or_eq_true _ _ ▸ h).elim hab abt
      cases cr
      · exact this
      · exact Bool.or_true _
    · have h2 := Bool.or_eq_false_iff.mp h2
      have h3 := Bool.or_eq_false_iff.mp h3
      by_cases hjk : j = k
      · exact Nat.le_trans (why (by simpa [hjk] using hj) h1 h2.1 h3.1) (Nat.le_add_left _ _)
      · exact Nat.le_trans (err h1 h2.2 h3.2 j (by simpa [hjk] using hj)) (Nat.le_add_right _ _)
  | win k _ _ => exact ⟨fun j hj => setCh_pc_ne_unspawned nofun fun _ => spw j hj, fun _ => rfl, nofun⟩
  | ret w _ _ => exact ⟨spw, abt, err⟩
  | raise r _ _ =>
    refine ⟨fun j hj => ?_, abt, fun h1 h2 h3 j hj => err h1 h2 h3 j ?_⟩
    · by_cases hjw : s.winner = some j <;> simp [St.raise, hjw, spw j hj]
    · simpa [St.raise, show s.winner = none from h1] using hj

theorem inv2_step {cfg : Cfg} {s s' : St} (l : Label) (J : Inv2 cfg s)
    (h : step cfg s l = some s') : Inv2 cfg s' := by
  obtain ⟨-, ⟨-, rfl⟩ | ⟨-, m⟩⟩ := step_spec h
  · exact ⟨J.spw, fun _ => by simp [St.abortable], J.err⟩
  · exact J.move m

theorem inv2_run {cfg : Cfg} (ls : List Label) {s s' : St} (J : Inv2 cfg s) (h : run cfg s ls = some s') : Inv2 cfg s' :=
  run_inv (inv2_step _) ls J h

theorem allfailed_step {cfg : Cfg} {s s' : St} {l : Label} (J : Inv2 cfg s) (h : step cfg s l = some s')
    (m : Nat) (hm : s'.fin = some (.raised (.allfailed m))) (hn : 0 < cfg.n) : 1 ≤ m := by
  obtain ⟨hf, ⟨-, rfl⟩ | ⟨-, mv⟩⟩ := step_spec h
  · exact nomatch hf.symm.trans hm
  cases mv with
  | raise r _ hr =>
    obtain ⟨rfl, hw, hc, ha, hd⟩ := hr m (by cases hm; rfl)
    exact J.err hw hc ha 0 (allDone_iff.mp hd 0 hn)
  | ret => exact nomatch hm
  | _ => exact nomatch hf.symm.trans hm

theorem allfailed_errors (cfg : Cfg) (ls : List Label) {s : St} (h : run cfg St.init ls = some s) (m : Nat)
    (hfin : s.fin = some (.raised (.allfailed m))) (hn : 0 < cfg.n) : 1 ≤ m :=
  (run_inv (P := fun s => Inv2 cfg s ∧ (s.fin = some (.raised (.allfailed m)) → 1 ≤ m))
    (fun ⟨J, _⟩ h1 => ⟨inv2_step _ J h1, fun e => allfailed_step J h1 m e hn⟩) ls ⟨inv2_init cfg, nofun⟩ h).2 hfin

def sumTo (f : Nat → Nat) : Nat → Nat
  | 0 => 0
  | n + 1 => sumTo f n + f n

theorem sumTo_le {f g : Nat → Nat} (h : ∀ j, g j ≤ f j) (n : Nat) : sumTo g n ≤ sumTo f n := by
  induction n with
  | zero => exact Nat.le_refl _
  | succ n ih => exact Nat.add_le_add ih (h n)

theorem sumTo_lt {f g : Nat → Nat} {k n : Nat} (hk : k < n) (h : ∀ j, g j ≤ f j) (hlt : g k < f k) :
    sumTo g n < sumTo f n := by
  induction n with
  | zero => exact absurd hk (Nat.not_lt_zero k)
  | succ n ih =>
    rcases Nat.lt_succ_iff_lt_or_eq.mp hk with hk' | rfl
    · exact Nat.add_lt_add_of_lt_of_le (ih hk') (h n)
    · exact Nat.add_lt_add_of_le_of_lt (sumTo_le h k) hlt

theorem sumTo_const (c n : Nat) : sumTo (fun _ => c) n = c * n := by
  induction n with
  | zero => rfl
  | succ n ih => exact congrArg (· + c) ih

/-- the steps still to come: what each of the `n` children has left, and the end of the coroutine -/
def measure (cfg : Cfg) (s : St) : Nat :=
  sumTo (fun k => rank (s.ch k).pc) cfg.n + (if s.fin.isNone then 1 else 0)

theorem measure_init (cfg : Cfg) : measure cfg St.init = 3 * cfg.n + 1 :=
  congrArg (· + 1) (sumTo_const 3 cfg.n)

theorem measure_child {cfg : Cfg} {s t : St} {k : Nat} {c : Child} (hk : k < cfg.n) (hr : rank c.pc < rank (s.ch k).pc)
    (ech : t.ch = (s.setCh k c).ch) (ef : t.fin = s.fin) : measure cfg t < measure cfg s := by
  unfold measure
  rw [ech, ef]
  refine Nat.add_lt_add_right (sumTo_lt hk (fun j => ?_) (by simpa using hr)) _
  by_cases hj : j = k
  · subst hj; simpa using Nat.le_of_lt hr
  · simp [hj]

theorem measure_end {cfg : Cfg} {s t : St} {f : Fin} (hf : s.fin = none) (ech : ∀ k, (t.ch k).pc = (s.ch k).pc)
    (ef : t.fin = some f) : measure cfg t < measure cfg s := by
  unfold measure
  rw [hf, ef]
  simp only [Option.isNone_none, Option.isNone_some, if_true, Bool.false_eq_true, if_false, Nat.add_zero]
  exact Nat.lt_succ_of_le (sumTo_le (fun k => Nat.le_of_eq (congrArg rank (ech k))) cfg.n)

theorem measure_move {cfg : Cfg} {s s' : St} (I : Inv cfg s) (hf : s.fin = none) (m : Move cfg s s') :
    measure cfg s' < measure cfg s := by
  have lt_n {k} (h : (s.ch k).pc ≠ .unspawned) : k < cfg.n := Nat.lt_of_lt_of_le (I.lt_next h) I.bnd
  cases m with
  | spawn hn => exact measure_child hn (by simp [I.nxt s.next (Nat.le_refl _), rank]) rfl rfl
  | child k c e cr ab hp hr _ _ _ => exact measure_child (lt_n hp) hr rfl rfl
  | win k hk _ => exact measure_child (lt_n (by simp [hk])) (by simp [hk, rank]) rfl rfl
  | ret w _ _ => exact measure_end hf (fun _ => rfl) rfl
  | raise r _ _ =>
    refine measure_end hf (fun k => ?_) rfl
    by_cases hk : s.winner = some k <;> simp [St.raise, hk, I.win k]

theorem measure_run {cfg : Cfg} (ls : List Label) {s s' : St} (I : Inv cfg s) (h : run cfg s ls = some s') :
    (ls.filter fun l => l ≠ .cancel).length + measure cfg s' ≤ measure cfg s := by
  induction ls generalizing s with
  | nil => cases h; exact Nat.le_of_eq (Nat.zero_add _)
  | cons l ls ih =>
    obtain ⟨s1, h1, h⟩ := run_cons.mp h
    have ih := ih (inv_step l I h1) h
    obtain ⟨hf, ⟨rfl, rfl⟩ | ⟨hl, m⟩⟩ := step_spec h1
    · exact ih
    · rw [List.filter_cons_of_pos (by simpa using hl), List.length_cons, Nat.succ_add]
      exact Nat.le_trans (Nat.succ_le_succ ih) (measure_move I hf m)

theorem progress {cfg : Cfg} {s : St} (I : Inv cfg s) (J : Inv2 cfg s) (hf : s.fin = none) :
    (∃ l, l ≠ Label.cancel ∧ (step cfg s l).isSome = true) ∨
    (∃ k, (s.ch k).pc = .connecting ∧ (cfg.addr k).out = .hang ∧ s.abortable = false) := by
  by_cases h1 : ∃ k, (s.ch k).pc = .spawned
  · obtain ⟨k, hk⟩ := h1
    refine .inl ⟨.begin k, nofun, ?_⟩
    simp only [step, hf, hk, Option.isNone_none, and_self, if_true]
    split <;> rfl
  by_cases h2 : ∃ k, (s.ch k).pc = .connecting
  · obtain ⟨k, hk⟩ := h2
    by_cases hab : s.abortable = true
    · exact .inl ⟨.res k .cancelled, nofun, by simp [step, hf, hk, hab]⟩
    · cases ho : (cfg.addr k).out with
      | hang => exact .inr ⟨k, hk, ho, by simpa using hab⟩
      | ok =>
        refine .inl ⟨.res k .ok, nofun, ?_⟩
        simp only [step, hf, hk, ho, Res.matches, Option.isNone_none, and_self, if_true]
        split <;> rfl
      | err => exact .inl ⟨.res k .err, nofun, by simp [step, hf, hk, ho, Res.matches]⟩
      | crash => exact .inl ⟨.res k .crash, nofun, by simp [step, hf, hk, ho, Res.matches]⟩
  -- every child is unspawned or done, so the coroutine may end or spawn the next attempt
  have hpc (k : Nat) : (s.ch k).pc = .unspawned ∨ (s.ch k).pc = .done := by
    cases hp : (s.ch k).pc with
    | unspawned => exact .inl rfl
    | done => exact .inr rfl
    | spawned => exact absurd ⟨k, hp⟩ h1
    | connecting => exact absurd ⟨k, hp⟩ h2
  have hdone (k : Nat) (hk : k < s.next) : (s.ch k).pc = .done := (hpc k).resolve_left (J.spw k hk)
  have hquiet : s.quiet cfg.n = true := quiet_iff.mpr fun k _ => (hpc k).elim (.inr ∘ .inl) .inl
  left
  by_cases hcr : s.crashed = true
  · refine ⟨.fin .crash, nofun, ?_⟩
    simp only [step, hf, hquiet, hcr, Option.isNone_none, and_self, if_true]
    split <;> rfl
  have hcr' : s.crashed = false := by simpa using hcr
  cases hw : s.winner with
  | some w => exact ⟨.fin .ret, nofun, by simp [step, hf, hquiet, hw, hcr']⟩
  | none =>
    by_cases hex : s.ext = true
    · exact ⟨.fin .cancelled, nofun, by simp [step, hf, hquiet, hw, hcr', hex]⟩
    have hnabt : s.aborted = false := by
      cases ha : s.aborted with
      | false => rfl
      | true => have := J.abt ha; simp [St.abortable, hw, hex, hcr'] at this
    by_cases hn : s.next < cfg.n
    · refine ⟨.spawn, nofun, ?_⟩
      have hg : cfg.stagger = true ∨ s.next = 0 ∨ (s.ch (s.next - 1)).pc = .done :=
        .inr ((Nat.eq_zero_or_pos s.next).imp_right fun h0 => hdone _ (Nat.sub_one_lt (Nat.ne_of_gt h0)))
      simp [step, hf, hn, hg]
    · have hnn : s.next = cfg.n := Nat.le_antisymm I.bnd (Nat.le_of_not_lt hn)
      refine ⟨.fin .allfailed, nofun, ?_⟩
      have hall : s.allDone cfg.n = true := allDone_iff.mpr fun k hk => hdone k (hnn ▸ hk)
      simp [step, hf, hquiet, hw, hcr', hnabt, hnn, hall]

end EasyNet.Race

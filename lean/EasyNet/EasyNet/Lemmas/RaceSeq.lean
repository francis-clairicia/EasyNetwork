/-
  Sequential connection attempts (`seqStep`: `_create_connection_impl` over a whole list): the invariant and what it
  says once the coroutine is over.
-/
import EasyNet.Model.Race
namespace EasyNet.Race

structure SeqInv (s : SeqSt) : Prop where
  opn : ∀ j, s.sock j = .opened ↔ (s.cur = some j ∨ s.fin = some (.ret j))
  excl : ∀ j, s.cur = some j → s.fin = none ∧ s.started = true

@[simp] theorem setSock_sock (s : SeqSt) (k j : Nat) (x : Sock) :
    (s.setSock k x).sock j = if j = k then x else s.sock j := rfl
@[simp] theorem setSock_cur (s : SeqSt) (k : Nat) (x : Sock) : (s.setSock k x).cur = s.cur := rfl
@[simp] theorem setSock_fin (s : SeqSt) (k : Nat) (x : Sock) : (s.setSock k x).fin = s.fin := rfl
@[simp] theorem setSock_started (s : SeqSt) (k : Nat) (x : Sock) : (s.setSock k x).started = s.started := rfl
@[simp] theorem setSock_errors (s : SeqSt) (k : Nat) (x : Sock) : (s.setSock k x).errors = s.errors := rfl

theorem SeqInv.idle {s : SeqSt} (ho : ∀ j, s.sock j ≠ .opened) (hc : s.cur = none) (hr : ∀ j, s.fin ≠ some (.ret j)) :
    SeqInv s :=
  ⟨fun j => ⟨fun h => absurd h (ho j), fun h => h.elim (fun h => nomatch hc.symm.trans h) fun h => absurd h (hr j)⟩,
    fun _ h => nomatch hc.symm.trans h⟩

theorem closed_of_ne_opened {s : SeqSt} {k : Nat} (h : ∀ j, j ≠ k → s.sock j ≠ .opened) (j : Nat) :
    (s.setSock k .closed).sock j ≠ .opened := by
  by_cases hj : j = k
  · simp [hj]
  · simpa [hj] using h j hj

theorem seqFrom_inv (locals : Option (List Loc)) (addrs : List Addr) (k : Nat) (s : SeqSt)
    (h : ∀ j, s.sock j ≠ .opened) (hf : s.fin = none) (hs : s.started = true) : SeqInv (seqFrom locals addrs k s) := by
  induction addrs generalizing k s with
  | nil => exact .idle h rfl nofun
  | cons a rest ih =>
    unfold seqFrom
    split
    · refine ⟨fun j => ?_, fun j _ => ⟨hf, hs⟩⟩
      by_cases hj : j = k
      · simp [hj]
      · simp [hj, h j, hf, show k ≠ j from fun e => hj e.symm]
    · exact ih _ _ h hf hs
    · exact ih _ _ (closed_of_ne_opened fun j _ => h j) hf hs

theorem seqInv_init : SeqInv SeqSt.init := .idle nofun rfl nofun

theorem SeqInv.not_started {s : SeqSt} (I : SeqInv s) (hs : ¬ s.started = true) (hf : s.fin = none) :
    s.cur = none ∧ ∀ j, s.sock j ≠ .opened := by
  have hc : s.cur = none := Option.eq_none_iff_forall_ne_some.mpr fun j hc => hs (I.excl j hc).2
  exact ⟨hc, fun j ho => ((I.opn j).mp ho).elim (fun h => nomatch hc.symm.trans h) fun h => nomatch hf.symm.trans h⟩

theorem seqInv_step {cfg : Cfg} {s s' : SeqSt} (l : SeqLabel) (I : SeqInv s) (h : seqStep cfg s l = some s') :
    SeqInv s' := by
  cases l with
  | cancel =>
    simp only [seqStep, Option.ite_none_right_eq_some, Option.some.injEq] at h
    obtain ⟨-, rfl⟩ := h
    exact ⟨I.opn, I.excl⟩
  | start =>
    simp only [seqStep, Option.ite_none_right_eq_some, Option.some.injEq] at h
    obtain ⟨g, rfl⟩ := h
    have hf := Option.isNone_iff_eq_none.mp g.2
    exact seqFrom_inv _ _ _ _ (I.not_started g.1 hf).2 hf rfl
  | abort =>
    simp only [seqStep, Option.ite_none_right_eq_some, Option.some.injEq] at h
    obtain ⟨g, rfl⟩ := h
    have ⟨hc, ho⟩ := I.not_started g.1 (Option.isNone_iff_eq_none.mp g.2.1)
    exact .idle ho hc nofun
  | res r =>
    simp only [seqStep] at h
    split at h
    · rename_i k hfin hcur
      have hopen (j : Nat) : s.sock j = .opened ↔ j = k := by
        rw [I.opn j, hcur, hfin]; simp [eq_comm]
      have closed := closed_of_ne_opened fun j hj ho => hj ((hopen j).mp ho)
      cases r <;> simp only [Option.ite_none_right_eq_some, Option.some.injEq] at h <;> obtain ⟨g, rfl⟩ := h
      · exact ⟨fun j => by simp [hopen j, eq_comm], nofun⟩
      · exact seqFrom_inv _ _ _ _ closed hfin (I.excl k hcur).2
      · exact .idle closed rfl nofun
      · exact .idle closed rfl nofun
    · cases h

theorem seqInv_run {cfg : Cfg} (ls : List SeqLabel) {s s' : SeqSt} (I : SeqInv s) (h : seqRun cfg s ls = some s') :
    SeqInv s' := by
  induction ls generalizing s with
  | nil => cases h; exact I
  | cons l ls ih =>
    simp only [seqRun] at h
    split at h
    · rename_i s1 h1; exact ih (seqInv_step l I h1) h
    · cases h

theorem SeqInv.open_after_end {s : SeqSt} (I : SeqInv s) (hf : s.fin ≠ none) (j : Nat) :
    s.sock j = .opened ↔ s.fin = some (.ret j) :=
  (I.opn j).trans ⟨fun h => h.elim (fun hc => absurd (I.excl j hc).1 hf) id, .inr⟩

end EasyNet.Race

/-
  C10 — invariants of the receive loops stacked on the cancellable receive (EasyNet/Model/RecvLayers.lean).
-/
import EasyNet.Model.RecvLayers
namespace EasyNet.C10.RL

theorem lstep_fed (s : LSt) (e : LEv) (h : s.fed = s.taken) : (lstep s e).1.fed = (lstep s e).1.taken := by
  obtain ⟨pc, fed, taken⟩ := s
  -- with one variable for both fields, every branch of `lstep` writes the same value to both
  cases h
  unfold lstep
  repeat' split
  all_goals rfl

theorem lrun_fed (evs : List LEv) {s : LSt} (h : s.fed = s.taken) : (lrun s evs).fed = (lrun s evs).taken := by
  induction evs generalizing s with
  | nil => exact h
  | cons e es ih => exact ih (lstep_fed s e h)

/-- plaintext held by a suspended `_retry_ssl_method` (only with the flush after a read) -/
def held (s : TSt) : Bytes :=
  match s.pc with
  | .okLock r => r
  | .okSend r => r
  | _ => []

def NoHold (s : TSt) : Prop := ∀ r, s.pc ≠ .okLock r ∧ s.pc ≠ .okSend r

/-- no suspended call holds plaintext, and what was returned or still sits in the read BIO is what was taken -/
def TInv (s : TSt) : Prop := NoHold s ∧ s.returned ++ s.bio = s.taken

variable {c : TCfg} {s : TSt}

theorem TInv.set_pc {p : TPC} (h : s.returned ++ s.bio = s.taken)
    (hp : ∀ r, p ≠ .okLock r ∧ p ≠ .okSend r := by exact fun _ => ⟨nofun, nofun⟩) : TInv { s with pc := p } :=
  ⟨hp, h⟩

theorem rdPart_ok (env : TEnv) (h : s.returned ++ s.bio = s.taken) : TInv (rdPart s env).1 := by
  unfold rdPart
  split <;> exact .set_pc h

theorem attempt_ok (hc : c.flushAfterRead = false) (env : TEnv) (h : s.returned ++ s.bio = s.taken) :
    TInv (attempt c s env).1 := by
  unfold attempt
  rw [hc]
  by_cases hb : s.bio = []
  · rw [if_neg (not_not_intro hb)]
    split
    · split
      · exact .set_pc h
      · exact rdPart_ok env h
    · exact .set_pc h
  · rw [if_pos hb]
    exact ⟨fun _ => ⟨nofun, nofun⟩, (List.append_nil _).trans h⟩

theorem tstep_ok (hc : c.flushAfterRead = false) (e : TEv) (hi : TInv s) : TInv (tstep c s e).1 := by
  have h := hi.2
  cases e with
  | call env =>
    simp only [tstep]
    split
    · exact attempt_ok hc env h
    · exact hi
  | resume env d =>
    simp only [tstep]
    split
    · exact hi
    · split
      · exact .set_pc h
      · exact rdPart_ok env h
    · exact rdPart_ok env h
    · exact .set_pc h
    · by_cases hd : d = []
      · rw [if_pos hd]
        exact .set_pc h
      · rw [if_neg hd]
        exact attempt_ok hc env (by rw [← h, List.append_assoc])
    · next r hpc => exact absurd hpc (hi.1 r).1
    · next r hpc => exact absurd hpc (hi.1 r).2
  | cancel =>
    simp only [tstep]
    split
    · exact hi
    · exact .set_pc h

theorem trun_ok (hc : c.flushAfterRead = false) (evs : List TEv) (hi : TInv s) : TInv (trun c s evs) := by
  induction evs generalizing s with
  | nil => exact hi
  | cons e es ih => exact ih (tstep_ok hc e hi)

theorem NoHold.held (h : NoHold s) : held s = [] := by
  unfold RL.held
  split
  · next r hpc => exact absurd hpc (h r).1
  · next r hpc => exact absurd hpc (h r).2
  · rfl

end EasyNet.C10.RL

/-
  C10 — invariant and byte account of the receive-protocol model (EasyNet/Model/RecvProto.lean).

  `Inv` ties the waiter and caller's-buffer fields to the position of the reader task.  Every event other than
  connection loss keeps `Inv` and the account "returned ++ held afterwards = held before ++ arrived" (`Ok`, `step_ok`,
  `run_ok`); a loop turn moreover leaves the task parked or ends it with the protocol at rest (`TurnOk`).
-/
import EasyNet.Model.RecvProto
namespace EasyNet.C10.RP

/-- bytes that sit in the caller's buffer with their count held by the (completed, not yet consumed) read waiter -/
def inflight (s : St) : Bytes :=
  match s.pc, s.waiter with
  | .atWaiter _, some (.result (some n)) => s.extData.take n
  | _, _ => []

def Ev.isLost : Ev → Bool
  | .lost _ => true
  | _ => false

/-- consistency of protocol fields with the position of the reader task (runs without connection loss) -/
def Inv (s : St) : Prop :=
  s.lost = false ∧ s.lostExc = none ∧
  match s.pc with
  | .idle => s.waiter = none ∧ s.ext = none
  | .created _ => s.waiter = none ∧ s.ext = none
  | .atYield _ => s.waiter = some (.result none) ∧ s.ext = none
  | .atWaiter _ =>
      s.waiter ≠ none ∧
      (s.waiter = some .pending → s.buf = []) ∧
      (∀ cap, s.ext = some cap → (s.waiter = some .pending ∨ s.waiter = some .cancelled)) ∧
      (∀ n, s.waiter = some (.result (some n)) → s.ext = none ∧ n = s.extData.length)

theorem inv_init (c : Cfg) : Inv (St.init c) := ⟨rfl, rfl, rfl, rfl⟩

/-! ### flow control and `wake` write one field each: what does not read that field is not changed by them -/

theorem maybePause_frame {α : Sort _} (f : St → α) {c : Cfg} {s : St}
    (hf : ∀ p, f { s with readPaused := p } = f s) : f (maybePause c s) = f s := by
  unfold maybePause
  split
  · exact hf _
  · rfl

theorem maybeResume_frame {α : Sort _} (f : St → α) {c : Cfg} {s : St}
    (hf : ∀ p, f { s with readPaused := p } = f s) : f (maybeResume c s) = f s := by
  unfold maybeResume
  split
  · exact hf _
  · rfl

theorem wake_frame {α : Sort _} (f : St → α) {s : St} {e : Option Nat}
    (hf : ∀ w, f { s with waiter := w } = f s) : f (wake s e) = f s := by
  unfold wake
  split
  · exact hf _
  · rfl

@[simp] theorem maybeResume_buf (c s) : (maybeResume c s).buf = s.buf := maybeResume_frame St.buf fun _ => rfl

@[simp] theorem inflight_maybePause (c s) : inflight (maybePause c s) = inflight s :=
  maybePause_frame inflight fun _ => rfl

@[simp] theorem inflight_maybeResume (c s) : inflight (maybeResume c s) = inflight s :=
  maybeResume_frame inflight fun _ => rfl

@[simp] theorem inv_maybePause (c s) : Inv (maybePause c s) ↔ Inv s :=
  Iff.of_eq (maybePause_frame Inv fun _ => rfl)

@[simp] theorem inv_maybeResume (c s) : Inv (maybeResume c s) ↔ Inv s :=
  Iff.of_eq (maybeResume_frame Inv fun _ => rfl)

@[simp] theorem wake_buf (s e) : (wake s e).buf = s.buf := wake_frame St.buf fun _ => rfl

@[simp] theorem wake_pc (s e) : (wake s e).pc = s.pc := wake_frame St.pc fun _ => rfl

@[simp] theorem wake_ext (s e) : (wake s e).ext = s.ext := wake_frame St.ext fun _ => rfl

@[simp] theorem wake_extData (s e) : (wake s e).extData = s.extData := wake_frame St.extData fun _ => rfl

@[simp] theorem wake_lost (s e) : (wake s e).lost = s.lost := wake_frame St.lost fun _ => rfl

@[simp] theorem wake_lostExc (s e) : (wake s e).lostExc = s.lostExc := wake_frame St.lostExc fun _ => rfl

variable {c : Cfg} {s s' : St} {r : Req} {o : Out}

theorem wake_pending (h : s.waiter = some .pending) (e : Option Nat) :
    wake s e = { s with waiter := some (match e with | none => .result none | some x => .exc x) } :=
  if_pos h

theorem wake_of_ne (h : s.waiter ≠ some .pending) (e : Option Nat) : wake s e = s :=
  if_neg h

/-- no receive is waiting on the protocol -/
def Rest (s : St) : Prop :=
  s.lost = false ∧ s.lostExc = none ∧ s.waiter = none ∧ s.ext = none

theorem inv_idle (h : s.pc = .idle) : Inv s ↔ Rest s := by
  unfold Inv
  rw [h]
  exact Iff.rfl

theorem inv_created (h : s.pc = .created r) : Inv s ↔ Rest s := by
  unfold Inv
  rw [h]
  exact Iff.rfl

theorem inv_atYield (h : s.pc = .atYield r) :
    Inv s ↔ s.lost = false ∧ s.lostExc = none ∧ s.waiter = some (.result none) ∧ s.ext = none := by
  unfold Inv
  rw [h]

theorem inv_atWaiter (h : s.pc = .atWaiter r) :
    Inv s ↔ s.lost = false ∧ s.lostExc = none ∧ s.waiter ≠ none ∧ (s.waiter = some .pending → s.buf = []) ∧
      (∀ cap, s.ext = some cap → (s.waiter = some .pending ∨ s.waiter = some .cancelled)) ∧
      (∀ n, s.waiter = some (.result (some n)) → s.ext = none ∧ n = s.extData.length) := by
  unfold Inv
  rw [h]

theorem Inv.of_pending (hi : Inv s) (hw : s.waiter = some .pending) : ∃ r, s.pc = .atWaiter r ∧ s.buf = [] := by
  unfold Inv at hi
  split at hi <;> simp_all

theorem inv_clear_ext (hi : Inv s) : Inv { s with ext := none } := by
  refine ⟨hi.1, hi.2.1, ?_⟩
  have h := hi.2.2
  revert h
  dsimp only
  cases s.pc with
  | atWaiter r => exact fun h => ⟨h.1, h.2.1, nofun, fun n hn => ⟨rfl, (h.2.2.2 n hn).2⟩⟩
  | _ => exact fun h => ⟨h.1, rfl⟩

/-- completing the waiter is safe once the caller's buffer is no longer handed out, whatever the internal buffer held
    before: only the clause "a pending waiter means an empty buffer" reads `buf` -/
theorem inv_wake {b : Bytes} {e : Option Nat} (hi : Inv { s with buf := b }) (hx : s.ext = none) : Inv (wake s e) := by
  by_cases hw : s.waiter = some .pending
  · obtain ⟨r, hpc, -⟩ := hi.of_pending hw
    rw [wake_pending hw]
    refine Iff.mpr (inv_atWaiter hpc) ⟨hi.1, hi.2.1, ?_⟩
    cases e <;> simp [hx]
  · rw [wake_of_ne hw]
    unfold Inv at hi ⊢
    simpa only [hw, false_imp_iff] using hi

/-- what the protocol holds and no receive has returned yet: the bytes in flight, then its own buffer -/
def held (s : St) : Bytes := inflight s ++ s.buf

theorem held_atWaiter {n : Nat} (hpc : s.pc = .atWaiter r) (hw : s.waiter = some (.result (some n))) :
    held s = s.extData.take n ++ s.buf := by
  unfold held inflight
  rw [hpc, hw]

theorem held_of_waiter {w : Option Fut} (hw : s.waiter = w) (h : ∀ n, w ≠ some (.result (some n)) := by nofun) :
    held s = s.buf := by
  unfold held inflight
  split
  · next h' => exact absurd (hw ▸ h') (h _)
  · rfl

theorem held_of_pc {p : PC} (hpc : s.pc = p) (h : ∀ r, p ≠ .atWaiter r := by nofun) : held s = s.buf := by
  unfold held inflight
  split
  · next h' _ => exact absurd (hpc ▸ h') (h _)
  · rfl

theorem held_set_buf (s : St) (b : Bytes) : held { s with buf := b } = inflight s ++ b := rfl

theorem held_wake (s : St) (e : Option Nat) : held (wake s e) = held s := by
  by_cases hw : s.waiter = some .pending
  · rw [wake_pending hw, held_of_waiter hw]
    cases e <;> exact held_of_waiter rfl
  · rw [wake_of_ne hw]

/-- the byte account of a stretch of steps with outputs `os` -/
def Cons (s : St) (os : List Out) (s' : St) : Prop :=
  deliveredOf os ++ held s' = held s ++ arrivedOf os

theorem arrivedOf_cons (o : Out) (os : List Out) : arrivedOf (o :: os) = arrivedOf [o] ++ arrivedOf os := by
  cases o <;> simp [arrivedOf]

theorem deliveredOf_cons (o : Out) (os : List Out) : deliveredOf (o :: os) = deliveredOf [o] ++ deliveredOf os := by
  cases o <;> simp [deliveredOf]

theorem Cons.cons {s'' : St} {os : List Out} (h₁ : Cons s [o] s') (h₂ : Cons s' os s'') : Cons s (o :: os) s'' := by
  unfold Cons at *
  rw [deliveredOf_cons, arrivedOf_cons, List.append_assoc, h₂, ← List.append_assoc, h₁, List.append_assoc]

def Ok (s : St) (p : St × Out) : Prop := Inv p.1 ∧ Cons s [p.2] p.1

theorem Ok.intro (hi : Inv s') (h : deliveredOf [o] ++ held s' = held s ++ arrivedOf [o]) : Ok s (s', o) :=
  ⟨hi, h⟩

theorem Ok.silent (hi : Inv s') (hh : held s' = held s) (hd : deliveredOf [o] = [] := by rfl)
    (ha : arrivedOf [o] = [] := by rfl) : Ok s (s', o) :=
  .intro hi (by rw [hd, ha, hh, List.nil_append, List.append_nil])

theorem Ok.maybePause (h : Ok s (s', o)) : Ok s (maybePause c s', o) :=
  Eq.mpr (maybePause_frame (fun t => Ok s (t, o)) fun _ => rfl) h

def TurnOk (s : St) (p : St × Out) : Prop := Ok s p ∧ (p.2 = .parked ∨ p.1.pc = .idle)

theorem TurnOk.parked (hi : Inv s') (hh : held s' = held s) : TurnOk s (s', .parked) :=
  ⟨.silent hi hh, .inl rfl⟩

theorem TurnOk.ended (hpc : s'.pc = .idle) (hr : Rest s') (hb : deliveredOf [o] ++ s'.buf = held s)
    (ha : arrivedOf [o] = [] := by rfl) : TurnOk s (s', o) :=
  ⟨.intro (Iff.mpr (inv_idle hpc) hr) (by rw [held_of_pc hpc, hb, ha, List.append_nil]), .inr hpc⟩

theorem TurnOk.maybeResume (h : TurnOk s (s', o)) : TurnOk s (maybeResume c s', o) :=
  Eq.mpr (maybeResume_frame (fun t => TurnOk s (t, o)) fun _ => rfl) h

theorem start_ok (hi : Inv s) : Ok s (step c s (.start r)) := by
  cases hpc : s.pc <;> simp only [step, hpc]
  · exact .silent (Iff.mpr (inv_created rfl) ((inv_idle hpc).1 hi)) ((held_of_pc rfl).trans (held_of_pc hpc).symm)
  all_goals exact .silent hi rfl

theorem cancel_ok (hi : Inv s) : Ok s (step c s .cancel) := by
  simp only [step, cancelStep]
  split
  · exact .silent hi rfl
  -- neither `Inv` nor `held` reads `mustCancel`: both hold of the updated record by unfolding
  · exact .silent hi rfl
  · exact .silent hi rfl
  · next r hpc =>
    refine iteInduction (motive := fun t => Ok s (t, .cancel)) (fun hw => ?_) fun _ => .silent hi rfl
    exact .silent (Iff.mpr (inv_atWaiter hpc) ⟨hi.1, hi.2.1, nofun, nofun, fun _ _ => .inr rfl, nofun⟩)
      ((held_of_waiter rfl).trans (held_of_waiter hw).symm)

theorem eof_ok (hi : Inv s) : Ok s (step c s .eof) := by
  have hi' := inv_clear_ext hi
  simp only [step, eofStep]
  exact iteInduction (fun _ => .silent hi rfl) fun _ => .silent (inv_wake hi' rfl) (held_wake _ _)

theorem ioInternal_ok (b : Bytes) (hi : Inv s) (hext : s.ext = none) : Ok s (ioInternal c s b) := by
  unfold ioInternal
  split
  · exact .silent hi rfl
  · refine .maybePause (.intro (inv_wake hi hext) ?_)
    rw [held_wake, held_set_buf]
    simp only [held, deliveredOf, arrivedOf, List.nil_append, List.append_nil, List.append_assoc]

/-- the count goes to the pending waiter; the buffer is empty then, so the bytes in flight are the oldest unreturned -/
theorem ioExternal_ok (cap : Nat) (b : Bytes) (hi : Inv s) (hw : s.waiter = some .pending) :
    Ok s (ioExternal s cap b) := by
  obtain ⟨r, hpc, hb⟩ := hi.of_pending hw
  unfold ioExternal
  rw [if_pos hw, show min b.length cap = (b.take cap).length by rw [List.length_take, Nat.min_comm]]
  generalize b.take cap = d
  refine iteInduction (fun _ => .silent hi rfl) fun _ => .intro
    (Iff.mpr (inv_atWaiter hpc) ⟨hi.1, hi.2.1, nofun, nofun, nofun, fun n hn => ⟨rfl, by cases hn; rfl⟩⟩) ?_
  rw [held_of_waiter hw, hb]
  simp [held, inflight, hpc, deliveredOf, arrivedOf]

/-- with the guard, `get_buffer` hands the caller's buffer out only while the waiter is pending -/
theorem io_ok (hg : c.guard = true) (b : Bytes) (hi : Inv s) : Ok s (step c s (.io b)) := by
  simp only [step, ioStep]
  refine iteInduction (fun _ => .silent hi rfl) fun _ => ?_
  split
  · next cap _ =>
    -- `held` does not read `ext`, so the account from `{ s with ext := none }` is the account from `s`
    refine iteInduction (fun _ => ioInternal_ok b (inv_clear_ext hi) rfl) fun hw => ioExternal_ok cap b hi ?_
    rw [hg] at hw
    exact Decidable.not_not.1 fun h => hw ⟨rfl, h⟩
  · next hx => exact ioInternal_ok b hi hx

theorem finish_ok (hr : Rest s') (hb : s'.buf = held s) : TurnOk s (finishFromBuffer c s' r) := by
  cases r <;> exact .maybeResume (.ended rfl hr (by simp [deliveredOf, ← hb]))

theorem afterWait_ok (hr : Rest s') (hb : s'.buf = held s) : TurnOk s (afterWait c s' r) := by
  unfold afterWait
  split
  · exact .ended rfl hr hb
  · exact finish_ok hr hb

theorem runHead_ok (hr : Rest s) : TurnOk s (runHead c s r) := by
  have hs := (held_of_waiter hr.2.2.1).symm
  unfold runHead
  split
  · exact .ended rfl hr hs
  · refine iteInduction (fun _ => .ended rfl hr hs) fun _ => iteInduction (fun _ => .ended rfl hr hs) fun _ =>
      iteInduction (fun _ => ?_) fun hb => iteInduction (fun _ => .ended rfl hr hs) fun _ =>
      iteInduction (fun _ => .ended rfl hr hs) fun _ => ?_
    · exact .parked ⟨hr.1, hr.2.1, rfl, hr.2.2.2⟩ ((held_of_pc rfl).trans hs)
    · exact .parked ⟨hr.1, hr.2.1, nofun, fun _ => Decidable.not_not.1 (not_or.1 hb).1, fun _ _ => .inl rfl, nofun⟩
        ((held_of_waiter rfl).trans hs)

/-- with the salvage, a cancelled wake-up puts a count already delivered back in front of the internal buffer -/
theorem salvaged_spec (hs : c.salvage = true) (hl : s.lost = false) (hpc : s.pc = .atWaiter r) :
    (salvaged c s).lost = false ∧ (salvaged c s).lostExc = s.lostExc ∧ (salvaged c s).buf = held s := by
  unfold salvaged
  rw [if_pos hs]
  split
  · next n hw =>
    have hh := (held_atWaiter hpc hw).symm
    unfold salvageData
    by_cases hn : n = 0
    · rw [if_pos hn]
      subst hn
      exact ⟨hl, rfl, hh⟩
    · rw [if_neg hn, if_neg (by rw [hl]; nofun)]
      exact Eq.mpr
        (maybePause_frame (fun t : St => t.lost = false ∧ t.lostExc = s.lostExc ∧ t.buf = held s) fun _ => rfl)
        ⟨hl, rfl, hh⟩
  · next hw => exact ⟨hl, rfl, (held_of_waiter rfl hw).symm⟩

theorem cancelledWake_ok (hs : c.salvage = true) (hi : Inv s) (hpc : s.pc = .atWaiter r) :
    TurnOk s (cancelledWake c s) :=
  have hv := salvaged_spec hs hi.1 hpc
  .ended rfl ⟨hv.1, hv.2.1.trans hi.2.1, rfl, rfl⟩ hv.2.2

theorem wakeWaiter_ok (hs : c.salvage = true) (hi : Inv s) (hpc : s.pc = .atWaiter r) :
    TurnOk s (wakeWaiter c s r) := by
  have hr : Rest { s with ext := none, waiter := none } := ⟨hi.1, hi.2.1, rfl, rfl⟩
  unfold wakeWaiter
  split
  · exact .parked hi rfl
  · exact .parked hi rfl
  · exact cancelledWake_ok hs hi hpc
  · next v hw =>
    split
    · exact cancelledWake_ok hs hi hpc
    · split
      · exact .ended rfl hr (by rw [held_atWaiter hpc hw]; simp only [deliveredOf, List.append_nil])
      · exact afterWait_ok hr (held_of_waiter hw).symm
  · next e hw =>
    split
    · exact cancelledWake_ok hs hi hpc
    · exact .ended rfl hr (held_of_waiter hw).symm

theorem turn_ok (hs : c.salvage = true) (hi : Inv s) : TurnOk s (step c s .turn) := by
  simp only [step, turnStep]
  split
  · next hpc => exact .ended hpc ((inv_idle hpc).1 hi) (held_of_pc hpc).symm
  · next r hpc =>
    have hr := (inv_created hpc).1 hi
    split
    · exact .ended rfl hr (held_of_pc hpc).symm
    · exact runHead_ok hr
  · next r hpc =>
    have h := (inv_atYield hpc).1 hi
    have hr : Rest { s with waiter := none } := ⟨h.1, h.2.1, rfl, h.2.2.2⟩
    split
    · exact .ended rfl hr (held_of_pc hpc).symm
    · exact afterWait_ok hr (held_of_pc hpc).symm
  · next r hpc => exact wakeWaiter_ok hs hi hpc

theorem step_ok (hg : c.guard = true) (hs : c.salvage = true) (ev : Ev) (hnl : ev.isLost = false) (hi : Inv s) :
    Ok s (step c s ev) := by
  cases ev with
  | start r => exact start_ok hi
  | io b => exact io_ok hg b hi
  | eof => exact eof_ok hi
  | lost e => cases hnl
  | cancel => exact cancel_ok hi
  | turn => exact (turn_ok hs hi).1

theorem run_ok (hg : c.guard = true) (hs : c.salvage = true) (evs : List Ev) (hnl : ∀ e ∈ evs, e.isLost = false)
    (hi : Inv s) : Inv (run c s evs).1 ∧ Cons s (run c s evs).2 (run c s evs).1 := by
  induction evs generalizing s with
  | nil => exact ⟨hi, (List.append_nil _).symm⟩
  | cons e es ih =>
    have h₁ := step_ok hg hs e (hnl e (List.mem_cons_self ..)) hi
    have h₂ := ih (fun x hx => hnl x (List.mem_cons_of_mem _ hx)) h₁.1
    exact ⟨h₂.1, h₁.2.cons h₂.2⟩

theorem turn_cancelled (hs : c.salvage = true) (hi : Inv s) (hc : (step c s .turn).2 = .cancelled) :
    (step c s .turn).1.pc = .idle ∧ (step c s .turn).1.buf = held s := by
  have h := turn_ok hs hi
  have hidle := h.2.resolve_left (by rw [hc]; nofun)
  have hk := h.1.2
  unfold Cons at hk
  rw [hc] at hk
  exact ⟨hidle, (held_of_pc hidle).symm.trans (hk.trans (List.append_nil _))⟩

theorem recv_buffered (hpc : s.pc = .idle) (he : s.lostExc = none) (hne : s.buf ≠ []) {k : Nat} (hk : k ≠ 0) :
    (run c s [.start (.recv k), .turn, .turn]).2 = [.started, .parked, .ret (s.buf.take k)] ∧
    (run c s [.start (.recv k), .turn, .turn]).1.buf = s.buf.drop k := by
  simp [run, step, turnStep, runHead, afterWait, finishFromBuffer, hpc, he, hne, hk]

end EasyNet.C10.RP

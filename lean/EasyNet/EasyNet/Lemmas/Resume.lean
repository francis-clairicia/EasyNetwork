/-
  Resumption after a size rejection (C02, second sentence).

  Stream = big ++ sep ++ tail where the first occurrence of the separator in `big ++ sep` is the appended one.
  Whatever the chunking, and however many size errors / fragments are reported for `big`, the separator that
  terminates `big` is never cut through: once it has been consumed, decoding continues exactly as a fresh decoder
  would decode `tail`.  The key fact is that `LimitOverrunError` keeps the longest suffix of the data that is a
  prefix of the separator (`stripToSepPrefix`).
-/
import EasyNet.Lemmas.RUSpec
namespace EasyNet

/-- `stripToSepPrefix` drops bytes from the front until what is left is a prefix of the separator; it never drops
    into a part `v` that already is one -/
theorem stripToSepPrefix_append (sep u v : Bytes) (hv : v <+: sep) :
    ∃ m, m ≤ u.length ∧ stripToSepPrefix sep (u ++ v) = (u ++ v).drop m := by
  induction u with
  | nil =>
    refine ⟨0, Nat.le_refl _, ?_⟩
    cases v with
    | nil => rfl
    | cons y ys =>
      rw [List.nil_append, stripToSepPrefix, List.take_of_length_le hv.length_le,
        if_pos (beq_iff_eq.mpr (List.prefix_iff_eq_take.mp hv))]
      rfl
  | cons a u ih =>
    rw [List.cons_append, stripToSepPrefix]
    split
    · exact ⟨0, Nat.zero_le _, rfl⟩
    · obtain ⟨m, hm, he⟩ := ih
      exact ⟨m + 1, Nat.succ_le_succ hm, he⟩

theorem limitRemainder_short (sep b : Bytes) (c : Nat) (h : (b.drop c).length < sep.length) :
    limitRemainder b c sep = stripToSepPrefix sep (b.drop c) := by
  have hne : ((b.drop c).take sep.length == sep) = false := by
    apply beq_false_of_ne
    intro he
    have := congrArg List.length he
    rw [List.length_take] at this
    omega
  rw [limitRemainder, if_neg (by omega), hne]
  rfl

/-- **The separator is never cut through.**  `b` (no complete separator inside) is a prefix of `pre ++ sep ++ …`;
    the remainder kept by the size error is a suffix of `b` that starts at or before the end of `pre`. -/
theorem limitRemainder_notfound (sep b rest pre tl : Bytes) (hsep : sep ≠ [])
    (hnone : firstOcc sep b = none) (hpre : firstOcc sep (pre ++ sep) = some pre.length)
    (heq : b ++ rest = pre ++ sep ++ tl) :
    ∃ m, m ≤ pre.length ∧ m ≤ b.length ∧ limitRemainder b (b.length + 1 - sep.length) sep = b.drop m := by
  have hpos : 0 < sep.length := List.length_pos_iff.mpr hsep
  have hshort : b.length < pre.length + sep.length :=
    firstOcc_prefix_short sep b rest pre.length hsep (heq ▸ firstOcc_append_some sep _ tl _ hsep hpre) hnone
  -- `b` is a piece `u` of `pre` followed by a piece `v` of the terminator
  obtain ⟨u, v, rfl, hu, hv, hvl⟩ : ∃ u v, b = u ++ v ∧ u.length ≤ pre.length ∧ v <+: sep ∧ v.length < sep.length := by
    refine ⟨pre.take b.length, sep.take (b.length - pre.length), ?_, List.length_take_le' .., List.take_prefix .., ?_⟩
    · have h1 : (pre ++ sep ++ tl).take b.length = b := by rw [← heq, List.take_left]
      rw [List.append_assoc, List.take_append, List.take_append_of_le_length
        (Nat.sub_le_of_le_add (Nat.le_of_lt (Nat.add_comm .. ▸ hshort)))] at h1
      exact h1.symm
    · exact Nat.lt_of_le_of_lt (List.length_take_le ..) (by omega)
  rw [List.length_append]
  generalize hc : u.length + v.length + 1 - sep.length = c
  have hcu : c ≤ u.length :=
    hc ▸ Nat.sub_le_of_le_add (by rw [Nat.add_assoc]; exact Nat.add_le_add_left (Nat.succ_le_of_lt hvl) _)
  have hx : (u ++ v).drop c = u.drop c ++ v := List.drop_append_of_le_length hcu
  obtain ⟨m, hm, he⟩ := stripToSepPrefix_append sep (u.drop c) v hv
  rw [List.length_drop] at hm
  have hcm : c + m ≤ u.length := Nat.add_le_of_le_sub' hcu hm
  refine ⟨c + m, Nat.le_trans hcm hu, Nat.le_trans hcm (Nat.le_add_right ..), ?_⟩
  rw [limitRemainder_short sep _ c (by rw [hx, List.length_append, List.length_drop]; omega), hx, he, ← hx,
    List.drop_drop]

section
variable {sep : Bytes} {ke : Bool} {rej over : Nat → Bool}

/-- decoding `b`, a prefix of `big.drop k ++ sep ++ tail`: either we are still in front of the terminator of `big`
    (possibly further inside `big`), or the terminator has been consumed and what follows is the decoding of the
    part `t1` of `tail` received so far — preceded by at least one item for `big` -/
theorem decodeW_resume (hsep : sep ≠ []) (P : ProgLaws (sepSpec sep ke rej over)) (big tail : Bytes)
    (hbig : firstOcc sep (big ++ sep) = some big.length) (b : Bytes) :
    ∀ (k : Nat) (rest : Bytes), k ≤ big.length → b ++ rest = big.drop k ++ sep ++ tail →
      (∃ k', k ≤ k' ∧ k' ≤ big.length ∧
          (decodeW (sepSpec sep ke rej over) b).1 ++ rest = big.drop k' ++ sep ++ tail) ∨
      (∃ junk t1, junk ≠ [] ∧
          (decodeW (sepSpec sep ke rej over) b).2 = junk ++ (decodeW (sepSpec sep ke rej over) t1).2 ∧
          (decodeW (sepSpec sep ke rej over) b).1 = (decodeW (sepSpec sep ke rej over) t1).1 ∧ t1 ++ rest = tail) := by
  induction b using P.decodeW_induction with
  | need b hs =>
    intro k rest hk heq
    exact Or.inl ⟨k, Nat.le_refl _, hk, by rw [decodeW_of_need hs]; exact heq⟩
  | out b it r hs ih =>
    intro k rest hk heq
    rw [P.decodeW_of_out hs]
    -- the first occurrence of the separator in the remaining stream is the terminator of `big`
    have hpre := firstOcc_suffix sep big hsep hbig k hk
    rcases sepSpec_out hsep hs with ⟨i, hfi, hr⟩ | ⟨hnone, hr⟩
    · -- an item that ends with that terminator leaves exactly a prefix of `tail`
      refine Or.inr ⟨[it], r, List.cons_ne_nil _ _, rfl, rfl, ?_⟩
      have hi : big.length - k = i := by
        have := firstOcc_append_some sep b rest i hsep hfi
        rw [heq, firstOcc_append_some sep _ tail _ hsep hpre] at this
        exact Option.some.inj this
      have hl : i + sep.length = (big.drop k ++ sep).length := by simp [hi]
      rw [hr, ← List.drop_append_of_le_length (firstOcc_some _ _ _ hfi).1, heq, hl, List.drop_left]
    · -- size error before the terminator was complete: the kept remainder still contains what was received of it
      obtain ⟨m, hm1, hm2, hrm⟩ := limitRemainder_notfound sep b rest (big.drop k) tail hsep hnone
        (by rw [hpre, List.length_drop]) heq
      rw [List.length_drop] at hm1
      have heq' : r ++ rest = big.drop (k + m) ++ sep ++ tail := by
        rw [hr, hrm, ← List.drop_append_of_le_length hm2, heq, List.append_assoc,
          List.drop_append_of_le_length (by rw [List.length_drop]; exact hm1), List.drop_drop, List.append_assoc]
      rcases ih (k + m) rest (Nat.add_le_of_le_sub' hk hm1) heq' with ⟨k', hk1, hk2, hh⟩ | ⟨junk, t1, _, h1, h2, h3⟩
      · exact Or.inl ⟨k', Nat.le_trans (Nat.le_add_right ..) hk1, hk2, hh⟩
      · exact Or.inr ⟨it :: junk, t1, List.cons_ne_nil _ _, by rw [h1]; rfl, h2, h3⟩

/-- **Resumption, reference level.**  Whatever the chunking of `big ++ sep ++ tail`, the items delivered are some
    non-empty junk for `big` followed by exactly what a fresh decoder delivers for `tail` (cut as the chunking cuts it). -/
theorem refRun_resume (hsep : sep ≠ []) {spec : Bytes → SRes} (hspec : spec = sepSpec sep ke rej over)
    (P : ProgLaws spec) (big tail : Bytes) (hbig : firstOcc sep (big ++ sep) = some big.length) :
    ∀ (cs : List Bytes) (h : Bytes) (k : Nat), (h = [] ∨ spec h = .need) → k ≤ big.length →
      h ++ cs.flatten = big.drop k ++ sep ++ tail →
      ∃ junk cs', junk ≠ [] ∧ cs'.flatten = tail ∧ (refRun spec h cs).2 = junk ++ (refRun spec [] cs').2 ∧
        (refRun spec h cs).1 = (refRun spec [] cs').1 := by
  subst hspec
  intro cs
  induction cs with
  | nil =>
    -- a stream that still holds the terminator of `big` is not retained as incomplete
    intro h k hheld hk heq
    exfalso
    rw [List.flatten_nil, List.append_nil] at heq
    have hfo := firstOcc_append_some sep _ tail _ hsep (firstOcc_suffix sep big hsep hbig k hk)
    rw [← heq] at hfo
    rcases hheld with rfl | hneed
    · rw [firstOcc_none_nil sep hsep] at hfo; cases hfo
    · rw [(sepSpec_need hneed).1] at hfo; cases hfo
  | cons c cs ih =>
    intro h k hheld hk heq
    rw [List.flatten_cons, ← List.append_assoc] at heq
    simp only [refRun, P.refRecv_eq_decodeW]
    rcases decodeW_resume hsep P big tail hbig (h ++ c) k cs.flatten hk heq with
      ⟨k', _, hk2, hh⟩ | ⟨junk, t1, hj, h1, h2, h3⟩
    · obtain ⟨junk, cs', hj, hfl, hi1, hi2⟩ := ih _ k' (P.decodeW_held _) hk2 hh
      exact ⟨_ ++ junk, cs', by simp [hj], hfl, by rw [hi1, List.append_assoc], hi2⟩
    · have hrun : refRecv (sepSpec sep ke rej over) [] t1 = decodeW _ t1 := P.refRecv_eq_decodeW [] t1
      exact ⟨junk, t1 :: cs, hj, by rw [List.flatten_cons, h3], by rw [h1, h2, List.append_assoc, refRun, hrun],
        by rw [h2, refRun, hrun]⟩

end

end EasyNet

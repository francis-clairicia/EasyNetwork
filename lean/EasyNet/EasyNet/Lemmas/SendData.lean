/-
  Data side of the send paths: `adjust_leftover_buffer` removes exactly the bytes that were sent, the wire only ever
  receives the next bytes of the packet (`SentPrefix`), and every socket call that does not block makes progress (`Counted`).
-/
import EasyNet.Lemmas.Time
namespace EasyNet

theorem adjustRaw_flatten (bufs : List Bytes) (n : Nat) (hn : n ≤ bufs.flatten.length) :
    (adjustRaw bufs n).flatten = bufs.flatten.drop n := by
  induction bufs generalizing n with
  | nil => simp [adjustRaw]
  | cons b bs ih =>
    unfold adjustRaw
    rw [List.flatten_cons, List.length_append] at hn
    rw [List.flatten_cons, List.drop_append]
    split
    · next h0 => subst h0; simp
    · split
      · next hb => rw [ih _ (by omega), List.drop_eq_nil_of_le hb, List.nil_append]
      · next hb => rw [List.flatten_cons, Nat.sub_eq_zero_of_le (by omega), List.drop_zero]

theorem dropWhile_empty_flatten (l : List Bytes) : (l.dropWhile (·.isEmpty)).flatten = l.flatten := by
  induction l with
  | nil => rfl
  | cons b bs ih =>
    rw [List.dropWhile_cons]
    split
    · next hb => rw [ih, List.flatten_cons, List.isEmpty_iff.mp hb, List.nil_append]
    · rfl

theorem adjust_flatten (fix : Bool) (bufs : List Bytes) (n : Nat) (hn : n ≤ bufs.flatten.length) :
    (adjust fix bufs n).flatten = bufs.flatten.drop n := by
  unfold adjust
  cases fix with
  | true => exact (dropWhile_empty_flatten _).trans (adjustRaw_flatten bufs n hn)
  | false => exact adjustRaw_flatten bufs n hn

/-- head of the deque is an empty view -/
def headEmpty : List Bytes → Bool
  | [] => false
  | b :: _ => b.isEmpty

theorem headEmpty_dropWhile (l : List Bytes) : headEmpty (l.dropWhile (·.isEmpty)) = false := by
  induction l with
  | nil => rfl
  | cons b bs ih =>
    rw [List.dropWhile_cons]
    split
    · exact ih
    · next hb => simpa [headEmpty] using hb

theorem flatten_take_append_drop (iov : Nat) (bufs : List Bytes) :
    (bufs.take iov).flatten ++ (bufs.drop iov).flatten = bufs.flatten := by
  rw [← List.flatten_append, List.take_append_drop]

theorem offered_le (iov : Nat) (bufs : List Bytes) : offered iov bufs ≤ bufs.flatten.length := by
  rw [← flatten_take_append_drop iov bufs, List.length_append]
  exact Nat.le_add_right ..

theorem take_offered (iov : Nat) (bufs : List Bytes) (k : Nat) (hk : k ≤ offered iov bufs) :
    (bufs.take iov).flatten.take k = bufs.flatten.take k := by
  rw [← flatten_take_append_drop iov bufs, List.take_append_of_le_length hk]

theorem offered_pos (iov : Nat) (b : Bytes) (bs : List Bytes) (hiov : 1 ≤ iov) (hb : b.isEmpty = false) :
    1 ≤ offered iov (b :: bs) := by
  obtain ⟨n, rfl⟩ : ∃ n, iov = n + 1 := ⟨iov - 1, by omega⟩
  have : b ≠ [] := fun h => by simp [h] at hb
  have := List.length_pos_iff.mpr this
  simp only [offered, List.take_succ_cons, List.flatten_cons, List.length_append]
  omega

/-- `w'` is `w` after one more select() -/
structure World.Selected (w w' : World) : Prop where
  log : ∃ b t, w'.log = .select b t :: w.log
  sel : w'.sel.length + 1 = w.sel.length
  wire : w'.wire = w.wire

namespace World.Selected
variable {w w' : World}

theorem nsel (h : World.Selected w w') : w'.nsel = w.nsel + 1 := by
  obtain ⟨b, t, hl⟩ := h.log
  rw [World.nsel, hl]; exact List.countP_cons_of_pos rfl

theorem ncall (h : World.Selected w w') : w'.ncall = w.ncall := by
  obtain ⟨b, t, hl⟩ := h.log
  rw [World.ncall, hl]; exact List.countP_cons_of_neg (by simp [Obs.isCall])

theorem afterSelect {e : SelEv} {sel : List SelEv} (hs : w.sel = e :: sel) (b : Blk) (wv el : Nat) :
    World.Selected w (w.afterSelect b sel wv el) :=
  ⟨⟨b, some wv, rfl⟩, by simp [World.afterSelect, hs], rfl⟩

theorem afterSelectU {e : SelEv} {sel : List SelEv} (hs : w.sel = e :: sel) (b : Blk) (el : Nat) :
    World.Selected w (w.afterSelectU b sel el) :=
  ⟨⟨b, none, rfl⟩, by simp [World.afterSelectU, hs], rfl⟩

end World.Selected

theorem retryWait_selected {ri : Tmo} {blk : Blk} {t : Tmo} {w : World} {r : Wait} : retryWait ri blk t w = r →
    match r with
    | .cont _ w' => World.Selected w w'
    | .timeout w' => w' = w ∨ World.Selected w w'
    | .exhausted w' => w' = w ∨ World.Selected w w'
    | .rterr w' => w' = w ∨ World.Selected w w' := by
  rintro rfl
  unfold retryWait
  by_cases hz : t.isZero = true
  · rw [if_pos hz]; exact .inl rfl
  · rw [if_neg hz]
    cases hs : w.sel with
    | nil => exact .inl rfl
    | cons e sel =>
      cases Tmo.waitTime t ri with
      | none =>
        dsimp only
        by_cases ha : e.avail = true
        · rw [if_pos ha]; exact .afterSelectU hs ..
        · rw [if_neg ha]; exact .inr (.afterSelectU hs ..)
      | some wv =>
        dsimp only
        by_cases hb : (!e.avail && Tmo.le t ri) = true
        · rw [if_pos hb]; exact .inr (.afterSelect hs ..)
        · rw [if_neg hb]; exact .afterSelect hs ..

theorem World.Selected.wire_of {w w' : World} (h : w' = w ∨ World.Selected w w') : w'.wire = w.wire :=
  h.elim (· ▸ rfl) (·.wire)

/-- The operation that ended as `r` appended a prefix of `rem` to `wire`, all of `rem` if it returned normally. -/
def SentPrefix (rem wire : Bytes) (r : Outcome × World) : Prop :=
  ∃ X, X <+: rem ∧ r.2.wire = wire ++ X ∧ (r.1 = .ok → X = rem)

namespace SentPrefix
variable {rem wire : Bytes} {o : Outcome} {w : World} {r : Outcome × World}

theorem stop (hw : w.wire = wire) (ho : o ≠ .ok) : SentPrefix rem wire (o, w) :=
  ⟨[], List.nil_prefix, by rw [hw, List.append_nil], fun h => absurd h ho⟩

theorem all (hw : w.wire = wire ++ rem) : SentPrefix rem wire (o, w) :=
  ⟨rem, List.prefix_refl _, hw, fun _ => rfl⟩

theorem step (n : Nat) (h : SentPrefix (rem.drop n) (wire ++ rem.take n) r) : SentPrefix rem wire r := by
  obtain ⟨X, ⟨Y, hY⟩, hw, hok⟩ := h
  refine ⟨rem.take n ++ X, ⟨Y, ?_⟩, by rw [hw, List.append_assoc], fun h => ?_⟩
  · rw [List.append_assoc, hY, List.take_append_drop]
  · rw [hok h, List.take_append_drop]

end SentPrefix

theorem sendAllLoop_wire {fl ri data sock s w} :
    SentPrefix (data.drop s.total) w.wire (sendAllLoop fl ri data sock s w) := by
  induction sock generalizing s w with
  | nil => exact .stop rfl nofun
  | cons c rest ih =>
    unfold sendAllLoop
    cases classifySend fl c.ev with
    | ok k =>
      dsimp only
      split
      · next hdone =>
        refine .all (congrArg (w.wire ++ ·) (List.take_of_length_le ?_))
        rw [List.length_drop]; omega
      · refine .step (min k (data.length - s.total)) ?_
        rw [List.drop_drop]; exact ih (s := ⟨_, _, _, _⟩)
    | block blk =>
      dsimp only
      cases hr : retryWait ri blk s.tIn _ with
      | cont t' w' => exact (retryWait_selected hr).wire ▸ ih (s := { s with tIn := t' })
      | _ => exact .stop (World.Selected.wire_of (retryWait_selected hr) :) nofun
    | _ => exact .stop rfl nofun

theorem sendmsgLoop_wire {fix ri iov sock bufs t w} : SentPrefix bufs.flatten w.wire (sendmsgLoop fix ri iov sock bufs t w) := by
  induction sock generalizing bufs t w with
  | nil => cases bufs with
    | nil => exact .all (List.append_nil _).symm
    | cons b bs => exact .stop rfl nofun
  | cons c rest ih =>
    cases bufs with
    | nil => exact .all (List.append_nil _).symm
    | cons b bs =>
      unfold sendmsgLoop
      cases classifySend .plain c.ev with
      | ok k =>
        have hle := Nat.min_le_right k (offered iov (b :: bs))
        refine .step (min k (offered iov (b :: bs))) ?_
        rw [← adjust_flatten fix _ _ (Nat.le_trans hle (offered_le ..)), ← take_offered iov _ _ hle]
        exact ih
      | block blk =>
        dsimp only
        cases hr : retryWait ri blk t _ with
        | cont t' w' => exact (retryWait_selected hr).wire ▸ ih
        | _ => exact .stop (World.Selected.wire_of (retryWait_selected hr) :) nofun
      | _ => exact .stop rfl nofun

/-- environment law: a send that succeeds on at least one offered byte reports at least one byte -/
def SentPos (sock : List SockCall) : Prop := ∀ c ∈ sock, ∀ n, c.ev = .sent n → 1 ≤ n

theorem classifySend_ok {fl : Flavour} {ev : SockEv} {k : Nat} (h : classifySend fl ev = .ok k) : ev = .sent k := by
  cases fl <;> cases ev <;> simp [classifySend] at h <;> simp [h]

/-- `w'` is `w` after one socket call followed by `k` select() calls -/
structure World.Called (w w' : World) (k : Nat) : Prop where
  ncall : w'.ncall = w.ncall + 1
  nsel : w'.nsel = w.nsel + k
  sel : w'.sel.length + k = w.sel.length

namespace World.Called
variable {w w₁ w' : World} {k : Nat}

theorem afterCall (w : World) {o : Obs} (p : Nat) (hc : o.isCall = true) (hs : o.isSelect = false) :
    World.Called w (w.afterCall o p) 0 :=
  ⟨List.countP_cons_of_pos hc, List.countP_cons_of_neg (by simp [hs]), rfl⟩

theorem put (h : World.Called w w' k) (x : Bytes) : World.Called w (w'.put x) k := ⟨h.ncall, h.nsel, h.sel⟩

theorem selected (h : World.Called w w₁ 0) (hs : World.Selected w₁ w') : World.Called w w' 1 :=
  ⟨hs.ncall.trans h.ncall, hs.nsel.trans (congrArg (· + 1) h.nsel), by have := hs.sel; have := h.sel; omega⟩

end World.Called

/-- Socket calls against work and waits, for an operation that started in `w` with `n` scripted socket answers and `μ`
    units of work to do and ended as `r`.  `calls`: apart from the last one, every socket call is paid for by a unit of
    work or by a select() that follows it. -/
structure Counted (μ n : Nat) (w : World) (r : Outcome × World) : Prop where
  calls : r.2.ncall + w.nsel ≤ w.ncall + r.2.nsel + μ + 1
  used : r.1 = .exhaustedSock → r.2.ncall = w.ncall + n
  sels : r.2.nsel + r.2.sel.length ≤ w.nsel + w.sel.length

namespace Counted
variable {μ μ' n k : Nat} {w w₁ w' : World} {o : Outcome} {r : Outcome × World}

theorem nil (ho : o = .exhaustedSock → n = 0) : Counted μ n w (o, w) :=
  ⟨Nat.le_add_right (w.ncall + w.nsel) (μ + 1), fun h => ho h ▸ rfl, Nat.le_refl _⟩

theorem stop (hc : World.Called w w₁ 0) (hs : w' = w₁ ∨ World.Selected w₁ w') (ho : o ≠ .exhaustedSock) :
    Counted μ n w (o, w') := by
  obtain ⟨k, h1, h2, h3⟩ : ∃ k, World.Called w w' k :=
    hs.elim (fun e => ⟨0, e ▸ hc⟩) fun hs => ⟨1, hc.selected hs⟩
  exact ⟨by show w'.ncall + _ ≤ _ + w'.nsel + _ + _; omega, fun h => absurd h ho,
         by show w'.nsel + w'.sel.length ≤ _; omega⟩

theorem step (hc : World.Called w w₁ k) (hμ : μ' + 1 ≤ μ + k) (h : Counted μ' n w₁ r) : Counted μ (n + 1) w r := by
  obtain ⟨h1, h2, h3⟩ := hc
  obtain ⟨c1, c2, c3⟩ := h
  exact ⟨by omega, fun h => by rw [c2 h, h1]; omega, by omega⟩

theorem mono (h : Counted μ n w r) (hμ : μ ≤ μ') : Counted μ' n w r :=
  ⟨by have := h.calls; omega, h.used, h.sels⟩

end Counted

theorem SentPos.tail {c : SockCall} {sock : List SockCall} (h : SentPos (c :: sock)) : SentPos sock :=
  fun c' hc' => h c' (List.mem_cons_of_mem _ hc')

theorem SentPos.head {fl : Flavour} {c : SockCall} {sock : List SockCall} {k : Nat} (h : SentPos (c :: sock))
    (hk : classifySend fl c.ev = .ok k) : 1 ≤ k :=
  h c (List.mem_cons_self ..) k (classifySend_ok hk)

theorem sendAllLoop_counts {fl ri data sock s w} (hlaw : SentPos sock) :
    Counted (data.length - s.total) sock.length w (sendAllLoop fl ri data sock s w) := by
  induction sock generalizing s w with
  | nil => exact .nil fun _ => rfl
  | cons c rest ih =>
    have hc := World.Called.afterCall w (o := .call (data.length - s.total) 1) c.p rfl rfl
    unfold sendAllLoop
    cases hcl : classifySend fl c.ev with
    | ok k =>
      have hk := hlaw.head hcl
      dsimp only
      split
      · exact .stop (hc.put _) (.inl rfl) nofun
      · exact .step (hc.put _) (by dsimp only; omega) (ih (s := ⟨_, _, _, _⟩) hlaw.tail)
    | block blk =>
      dsimp only
      cases hr : retryWait ri blk s.tIn _ with
      | cont t' w' =>
        exact .step (hc.selected (retryWait_selected hr)) (Nat.le_refl _) (ih (s := { s with tIn := t' }) hlaw.tail)
      | _ => exact .stop hc (retryWait_selected hr) nofun
    | _ => exact .stop hc (.inl rfl) nofun

/-- progress measure of the deque: bytes left, plus one if an empty view sits at the head -/
def mu (bufs : List Bytes) : Nat := bufs.flatten.length + (if headEmpty bufs then 1 else 0)

theorem mu_adjust (iov : Nat) (b : Bytes) (bs : List Bytes) (k : Nat) (hiov : 1 ≤ iov) (hk : 1 ≤ k) :
    mu (adjust true (b :: bs) (min k (offered iov (b :: bs)))) + 1 ≤ mu (b :: bs) := by
  have hle : min k (offered iov (b :: bs)) ≤ (b :: bs).flatten.length :=
    Nat.le_trans (Nat.min_le_right _ _) (offered_le iov (b :: bs))
  have hhe : headEmpty (adjust true (b :: bs) (min k (offered iov (b :: bs)))) = false := headEmpty_dropWhile _
  rw [mu, hhe, adjust_flatten true _ _ hle, List.length_drop, mu, if_neg Bool.false_ne_true]
  cases hb : b.isEmpty with
  | true => rw [headEmpty, hb, if_pos rfl]; omega
  | false => have := offered_pos iov b bs hiov hb; omega

/-- with the repaired `adjust_leftover_buffer` (`fix = true`) -/
theorem sendmsgLoop_counts {ri iov sock bufs t w} (hiov : 1 ≤ iov) (hlaw : SentPos sock) :
    Counted (mu bufs) sock.length w (sendmsgLoop true ri iov sock bufs t w) := by
  induction sock generalizing bufs t w with
  | nil => cases bufs with
    | nil => exact .nil nofun
    | cons b bs => exact .nil fun _ => rfl
  | cons c rest ih =>
    cases bufs with
    | nil => exact .nil nofun
    | cons b bs =>
      have hc := World.Called.afterCall w (o := .call (offered iov (b :: bs)) (min iov (bs.length + 1))) c.p rfl rfl
      unfold sendmsgLoop
      cases hcl : classifySend .plain c.ev with
      | ok k => exact .step (hc.put _) (mu_adjust iov b bs k hiov (hlaw.head hcl)) (ih hlaw.tail)
      | block blk =>
        dsimp only
        cases hr : retryWait ri blk t _ with
        | cont t' w' => exact .step (hc.selected (retryWait_selected hr)) (Nat.le_refl _) (ih hlaw.tail)
        | _ => exact .stop hc (retryWait_selected hr) nofun
      | _ => exact .stop hc (.inl rfl) nofun

theorem sendPacket_cases {P : Outcome × World → Prop} {tr : Transport} {fix : Bool} {iov : Int} {ri : Tmo}
    {chunks : List Bytes} {t : Tmo} {sock : List SockCall} {w : World}
    (hall : ∀ fl, P (sendAllLoop fl ri chunks.flatten sock ⟨0, t, t, w.now⟩ w))
    (hmsg : 1 ≤ iov.toNat → P (sendmsgLoop fix ri iov.toNat sock chunks t w)) :
    P (sendPacket tr fix iov ri chunks t sock w) := by
  unfold sendPacket sendAllFromIterable
  cases tr with
  | sendmsg =>
    dsimp only
    split
    · exact hall .plain
    · exact hmsg (by omega)
  | nosendmsg => exact hall .plain
  | tls => exact hall .tls

theorem sendPacket_sent (tr : Transport) (fix : Bool) (iov : Int) (ri : Tmo) (chunks : List Bytes) (t : Tmo)
    (sock : List SockCall) (w : World) : SentPrefix chunks.flatten w.wire (sendPacket tr fix iov ri chunks t sock w) :=
  sendPacket_cases (fun _ => sendAllLoop_wire (s := ⟨0, t, t, w.now⟩)) (fun _ => sendmsgLoop_wire)

theorem sendPacket_counted (tr : Transport) (iov : Int) (ri : Tmo) (chunks : List Bytes) (t : Tmo)
    (sock : List SockCall) (w : World) (hlaw : SentPos sock) :
    Counted (chunks.flatten.length + 1) sock.length w (sendPacket tr true iov ri chunks t sock w) :=
  sendPacket_cases (fun _ => (sendAllLoop_counts (s := ⟨0, t, t, w.now⟩) hlaw).mono (by dsimp only; omega))
    (fun hiov => (sendmsgLoop_counts hiov hlaw).mono (by unfold mu; split <;> omega))

end EasyNet

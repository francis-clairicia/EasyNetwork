/-
  Function-update and list lemmas for the C12 model: `upd`, `removeWaiter`, `wakeUpFirst`, `okIdx`.
-/
import EasyNet.Model.Senders
namespace EasyNet.C12
open EasyNet

@[simp] theorem upd_same {α : Type} (f : Tid → α) (t : Tid) (v : α) : upd f t v t = v := if_pos rfl
theorem upd_other {α : Type} (f : Tid → α) (t u : Tid) (v : α) (h : u ≠ t) : upd f t v u = f u := if_neg h
theorem upd_apply {α : Type} (f : Tid → α) (t u : Tid) (v : α) : upd f t v u = if u = t then v else f u := rfl

theorem apply_upd {α β : Type} (g : α → β) {f : Tid → α} {t : Tid} {v : α} (hv : g v = g (f t)) (u : Tid) :
    g (upd f t v u) = g (f u) := by
  rw [upd_apply]; split
  · rename_i hu; rw [hu, hv]
  · rfl

theorem upd_forall {α : Type} {P : α → Prop} {f : Tid → α} (h : ∀ u, P (f u)) {v : α} (hv : P v) (t u : Tid) :
    P (upd f t v u) := by
  rw [upd_apply]; split
  · exact hv
  · exact h u

theorem removeWaiter_sublist (t : Tid) (ws : List (Tid × Bool)) : (removeWaiter t ws).Sublist ws := by
  induction ws with
  | nil => exact .slnil
  | cons w ws ih =>
    unfold removeWaiter
    split
    · exact List.sublist_cons_self w ws
    · exact ih.cons_cons w

/-- on the list of task ids `deque.remove` is `List.erase`, whose membership and `Nodup` lemmas then apply -/
theorem removeWaiter_fst (t : Tid) (ws : List (Tid × Bool)) :
    (removeWaiter t ws).map (·.1) = (ws.map (·.1)).erase t := by
  induction ws with
  | nil => rfl
  | cons w ws ih =>
    unfold removeWaiter
    rw [List.map_cons, List.erase_cons]
    split
    · rw [if_pos (beq_iff_eq.2 ‹_›)]
    · rw [if_neg (mt beq_iff_eq.1 ‹_›), List.map_cons, ih]

theorem removeWaiter_head (t : Tid) (b : Bool) (ws : List (Tid × Bool)) : removeWaiter t ((t, b) :: ws) = ws := by
  simp [removeWaiter]

theorem removeWaiter_tail_subset (t : Tid) (ws : List (Tid × Bool)) (w : Tid × Bool)
    (h : w ∈ (removeWaiter t ws).tail) : w ∈ ws.tail := by
  cases ws with
  | nil => exact h
  | cons x ws =>
    unfold removeWaiter at h
    split at h
    · exact List.mem_of_mem_tail h
    · exact (removeWaiter_sublist t ws).subset h

theorem wakeUpFirst_locked (l : FairLock) : l.wakeUpFirst.locked = l.locked := by
  unfold FairLock.wakeUpFirst; split <;> rfl

/-- only a flag changes: whatever is computed from the task ids is unchanged -/
theorem wakeUpFirst_map_fst {α : Type} (f : Tid → α) (l : FairLock) :
    l.wakeUpFirst.waiters.map (fun w => f w.1) = l.waiters.map (fun w => f w.1) := by
  unfold FairLock.wakeUpFirst; split
  · rfl
  · rename_i h; rw [h]; rfl

theorem wakeUpFirst_fst (l : FairLock) : l.wakeUpFirst.waiters.map (·.1) = l.waiters.map (·.1) :=
  wakeUpFirst_map_fst id l

theorem wakeUpFirst_tail (l : FairLock) : l.wakeUpFirst.waiters.tail = l.waiters.tail := by
  unfold FairLock.wakeUpFirst; split
  · rfl
  · rename_i h; rw [h]; rfl

theorem wakeUpFirst_head (l : FairLock) (w : Tid × Bool) (h : l.wakeUpFirst.waiters.head? = some w) : w.2 = true := by
  unfold FairLock.wakeUpFirst at h; split at h
  · rename_i h0; rw [h0] at h; cases h
  · cases h; rfl

/-- positions (counted from `k`) of the calls that wrote their packet -/
def okIdx : List Outcome → Nat → List Nat
  | [], _ => []
  | o :: os, k => if o.written then k :: okIdx os (k + 1) else okIdx os (k + 1)

theorem okIdx_append (as bs : List Outcome) (k : Nat) :
    okIdx (as ++ bs) k = okIdx as k ++ okIdx bs (k + as.length) := by
  induction as generalizing k with
  | nil => rfl
  | cons x as ih =>
    simp only [List.cons_append, okIdx, ih, List.length_cons, Nat.succ_add_eq_add_succ]
    split <;> rfl

theorem okIdx_sublist (os : List Outcome) (k : Nat) : (okIdx os k).Sublist (List.range' k os.length) := by
  induction os generalizing k with
  | nil => exact .slnil
  | cons x os ih =>
    unfold okIdx
    rw [List.length_cons, List.range'_succ]
    split
    · exact (ih (k + 1)).cons_cons k
    · exact (ih (k + 1)).cons k

theorem okIdx_pairwise (os : List Outcome) (k : Nat) : (okIdx os k).Pairwise (· < ·) :=
  (List.pairwise_lt_range' (s := k)).sublist (okIdx_sublist os k)

theorem okIdx_all_ok (os : List Outcome) (k : Nat) (h : ∀ o ∈ os, o = .ok) : okIdx os k = List.range' k os.length := by
  induction os generalizing k with
  | nil => rfl
  | cons x os ih =>
    obtain ⟨rfl, hos⟩ := List.forall_mem_cons.1 h
    exact congrArg (k :: ·) (ih (k + 1) hos)

end EasyNet.C12

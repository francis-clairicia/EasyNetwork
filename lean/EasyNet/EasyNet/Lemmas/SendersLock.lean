/-
  C12: the lock invariant (FairLock protocol + senders): mutual exclusion, waiters = parked senders,
  only the head waiter is ever set and only while the lock is free, an unlocked lock with waiters has its
  head set (no lost wake-up), arrival tickets are granted in increasing order (first come, first served),
  no call ends in BusyResourceError / RuntimeError.
-/
import EasyNet.Lemmas.SendersWire
namespace EasyNet.C12
open EasyNet

/-- the sender owns the lock -/
def PC.crit : PC → Bool
  | .holding => true
  | .sending _ => true
  | _ => false

theorem PC.crit_of_isSending {p : PC} (h : p.isSending = true) : p.crit = true := by
  cases p <;> first | rfl | cases h

theorem PC.ne_waiting_of_crit {p : PC} (h : p.crit = true) : p ≠ .waiting := by
  rintro rfl; cases h

def Outcome.failed : Outcome → Bool
  | .busy => true
  | .lockError => true
  | .sentLockError => true
  | _ => false

/-- What every operation of `FairLock` keeps true of `_locked` and `_waiters`, whoever the callers are. -/
structure FairLock.WF (l : FairLock) : Prop where
  nodup : (l.waiters.map (·.1)).Nodup
  tailUnset : ∀ w ∈ l.waiters.tail, w.2 = false
  lockedUnset : l.locked = true → ∀ w ∈ l.waiters, w.2 = false
  headSet : l.locked = false → ∀ w, l.waiters.head? = some w → w.2 = true

namespace FairLock.WF
variable {l : FairLock} {t : Tid}

theorem new : FairLock.new.WF :=
  ⟨.nil, fun _ h => (nomatch h), fun _ _ h => (nomatch h), fun _ _ h => (nomatch h)⟩

theorem set_is_head (h : l.WF) (hs : l.isSet t = true) : l.locked = false ∧ ∃ rest, l.waiters = (t, true) :: rest := by
  obtain ⟨w, hw, hwt⟩ := List.any_eq_true.1 hs
  obtain ⟨hwt, hw2⟩ := Bool.and_eq_true_iff.1 hwt
  have hne : w.2 ≠ false := by rw [hw2]; exact Bool.noConfusion
  refine ⟨Bool.eq_false_iff.2 fun hl => hne (h.lockedUnset hl w hw), ?_⟩
  cases hws : l.waiters with
  | nil => rw [hws] at hw; cases hw
  | cons x rest =>
    rw [hws] at hw
    rcases List.mem_cons.1 hw with rfl | hw
    · exact ⟨rest, by rw [← beq_iff_eq.1 hwt, ← hw2]⟩
    · exact absurd (h.tailUnset w (by rw [hws]; exact hw)) hne

theorem fast (hempty : l.waiters = []) : WF { l with locked := true } := by
  obtain ⟨_, _⟩ := l; cases hempty
  exact ⟨.nil, fun _ h => (nomatch h), fun _ _ h => (nomatch h), fun h => (nomatch h)⟩

theorem park (h : l.WF) (ht : t ∉ l.waiters.map (·.1)) (hbusy : l.locked = true ∨ l.waiters ≠ []) :
    WF { l with waiters := l.waiters ++ [(t, false)] } := by
  have hnd : ((l.waiters ++ [(t, false)]).map (·.1)).Nodup := by
    rw [List.map_append, List.nodup_append]
    refine ⟨h.nodup, List.pairwise_singleton _ _, fun a ha b hb hab => ht ?_⟩
    have hb : b = t := List.mem_singleton.1 hb
    rw [← hb, ← hab]; exact ha
  have hnew : ∀ {ws : List (Tid × Bool)} {w}, w ∈ ws ++ [(t, false)] → (∀ w ∈ ws, w.2 = false) → w.2 = false :=
    fun hw hws => (List.mem_append.1 hw).elim (hws _) fun hw => by rw [List.mem_singleton.1 hw]
  obtain ⟨lk, ws⟩ := l
  cases ws with
  | nil =>
    -- the new event is the head, and the lock is taken
    have hlk : lk = true := hbusy.resolve_right fun h => h rfl
    exact ⟨hnd, fun _ h => (nomatch h), fun _ w hw => by rw [List.mem_singleton.1 hw],
      fun hl => (nomatch hlk.symm.trans hl)⟩
  | cons x rest =>
    exact ⟨hnd, fun w hw => hnew hw h.tailUnset, fun hl w hw => hnew hw (h.lockedUnset hl), h.headSet⟩

theorem resume (h : l.WF) (hs : l.isSet t = true) : (l.acquireResume t).WF := by
  obtain ⟨-, rest, hws⟩ := h.set_is_head hs
  have hnd := h.nodup; have htl := h.tailUnset; rw [hws] at hnd htl
  unfold FairLock.acquireResume; rw [hws, removeWaiter_head]
  exact ⟨(List.nodup_cons.1 hnd).2, fun w hw => htl w (List.mem_of_mem_tail hw), fun _ => htl, fun hl => (nomatch hl)⟩

theorem wake (hl : l.locked = false) (hnd : (l.waiters.map (·.1)).Nodup) (htl : ∀ w ∈ l.waiters.tail, w.2 = false) :
    l.wakeUpFirst.WF :=
  ⟨by rw [wakeUpFirst_fst]; exact hnd, by rw [wakeUpFirst_tail]; exact htl,
   fun h => (nomatch h.symm.trans ((wakeUpFirst_locked l).trans hl)), fun _ => wakeUpFirst_head l⟩

theorem cancel (h : l.WF) (t : Tid) : (l.acquireCancel t).WF := by
  have hnd : ((removeWaiter t l.waiters).map (·.1)).Nodup := by rw [removeWaiter_fst]; exact h.nodup.erase t
  have htl : ∀ w ∈ (removeWaiter t l.waiters).tail, w.2 = false :=
    fun w hw => h.tailUnset w (removeWaiter_tail_subset t _ w hw)
  unfold FairLock.acquireCancel
  split
  · rename_i hl
    exact ⟨hnd, htl, fun _ w hw => h.lockedUnset hl w ((removeWaiter_sublist t _).subset hw),
      fun hl' => (nomatch hl.symm.trans hl')⟩
  · rename_i hl; exact wake (Bool.eq_false_iff.2 hl) hnd htl

theorem release (h : l.WF) : (FairLock.wakeUpFirst { l with locked := false }).WF :=
  wake rfl h.nodup h.tailUnset

end FairLock.WF

theorem release_of_locked {l : FairLock} (hl : l.locked = true) :
    l.release = (FairLock.wakeUpFirst { l with locked := false }, true) := by
  unfold FairLock.release; rw [if_pos hl]

theorem acquireCancel_locked (l : FairLock) (t : Tid) : (l.acquireCancel t).locked = l.locked := by
  unfold FairLock.acquireCancel; split
  · rfl
  · exact wakeUpFirst_locked _

theorem acquireCancel_map_fst {α : Type} (f : Tid → α) (l : FairLock) (t : Tid) :
    (l.acquireCancel t).waiters.map (fun w => f w.1) = (removeWaiter t l.waiters).map (fun w => f w.1) := by
  unfold FairLock.acquireCancel; split
  · rfl
  · exact wakeUpFirst_map_fst f _

structure LockInv (s : Sys) : Prop where
  locked : s.lock.locked = true ↔ ∃ t, (s.pc t).crit = true
  one : ∀ t u, (s.pc t).crit = true → (s.pc u).crit = true → t = u
  waiting : ∀ t, s.pc t = .waiting ↔ t ∈ s.lock.waiters.map (·.1)
  nodup : (s.lock.waiters.map (·.1)).Nodup
  tailUnset : ∀ w ∈ s.lock.waiters.tail, w.2 = false
  lockedUnset : s.lock.locked = true → ∀ w ∈ s.lock.waiters, w.2 = false
  headSet : s.lock.locked = false → ∀ w, s.lock.waiters.head? = some w → w.2 = true
  tickets : (s.granted ++ s.lock.waiters.map (fun w => s.ticket w.1)).Pairwise (· < ·)
  ticketsLt : ∀ x ∈ s.granted ++ s.lock.waiters.map (fun w => s.ticket w.1), x < s.next
  noFail : ∀ t, ∀ o ∈ s.res t, o.failed = false

/-! The four parts of the invariant: the lock is `Excl`usive to the senders between acquire and release;
    the queued tasks are the parked senders; `FairLock.WF`; the ghost bookkeeping (tickets, outcomes). -/

theorem LockInv.excl {s : Sys} (h : LockInv s) : Excl PC.crit s.pc s.lock.locked := ⟨h.locked, h.one⟩

theorem LockInv.wf {s : Sys} (h : LockInv s) : s.lock.WF := ⟨h.nodup, h.tailUnset, h.lockedUnset, h.headSet⟩

/-- `LockInv` reads six fields of the state; here it is put together from its parts, stated about their values. -/
theorem LockInv.of_fields {s : Sys} {pc : Tid → PC} {l : FairLock} {gr : List Nat} {tk : Tid → Nat} {n : Nat}
    {res : Tid → List Outcome} (hpc : s.pc = pc) (hl : s.lock = l) (hgr : s.granted = gr) (htk : s.ticket = tk)
    (hn : s.next = n) (hres : s.res = res)
    (e : Excl PC.crit pc l.locked) (hw : ∀ t, pc t = .waiting ↔ t ∈ l.waiters.map (·.1)) (wf : l.WF)
    (ht : (gr ++ l.waiters.map (fun w => tk w.1)).Pairwise (· < ·) ∧ ∀ x ∈ gr ++ l.waiters.map (fun w => tk w.1), x < n)
    (nf : ∀ t, ∀ o ∈ res t, o.failed = false) : LockInv s := by
  subst hpc hl hgr htk hn hres
  exact ⟨e.flag, e.one, hw, wf.nodup, wf.tailUnset, wf.lockedUnset, wf.headSet, ht.1, ht.2, nf⟩

theorem LockInv.init : LockInv Sys.init :=
  .of_fields rfl rfl rfl rfl rfl rfl (.of_free fun _ => rfl) (fun _ => iff_of_false PC.noConfusion fun h => (nomatch h)) .new
    ⟨.nil, fun _ h => (nomatch h)⟩ fun _ _ h => (nomatch h)

theorem LockInv.waiting_upd {s : Sys} (h : LockInv s) {t : Tid} {p : PC} (hp : p ≠ .waiting) (ht : s.pc t ≠ .waiting)
    (u : Tid) : upd s.pc t p u = .waiting ↔ u ∈ s.lock.waiters.map (·.1) := by
  rw [← h.waiting u, upd_apply]; split
  · rename_i hu; rw [hu]; exact iff_of_false hp ht
  · rfl

theorem LockInv.waiting_remove {s : Sys} (h : LockInv s) {t : Tid} {p : PC} (hp : p ≠ .waiting) (u : Tid) :
    upd s.pc t p u = .waiting ↔ u ∈ (removeWaiter t s.lock.waiters).map (·.1) := by
  rw [removeWaiter_fst, h.nodup.mem_erase_iff, upd_apply]; split
  · rename_i hu; exact iff_of_false hp fun h => h.1 hu
  · rename_i hu; rw [h.waiting]; exact (and_iff_right hu).symm

theorem tickets_push {l : List Nat} {n : Nat} (hp : l.Pairwise (· < ·)) (hb : ∀ x ∈ l, x < n) :
    (l ++ [n]).Pairwise (· < ·) ∧ ∀ x ∈ l ++ [n], x < n + 1 := by
  refine ⟨List.pairwise_append.2 ⟨hp, List.pairwise_singleton _ _, fun a ha b hb' => ?_⟩, fun x hx => ?_⟩
  · rw [List.mem_singleton.1 hb']; exact hb a ha
  · rcases List.mem_append.1 hx with hx | hx
    · exact Nat.lt_succ_of_lt (hb x hx)
    · rw [List.mem_singleton.1 hx]; exact Nat.lt_succ_self n

theorem noFail_complete {res : Tid → List Outcome} (h : ∀ t, ∀ o ∈ res t, o.failed = false) (t : Tid) {o : Outcome}
    (ho : o.failed = false) : ∀ u, ∀ o' ∈ upd res t (res t ++ [o]) u, o'.failed = false :=
  upd_forall (P := fun l => ∀ o' ∈ l, o'.failed = false) h
    (fun o' ho' => (List.mem_append.1 ho').elim (h t o') fun h1 => List.mem_singleton.1 h1 ▸ ho) t

theorem LockInv.critStay {s : Sys} {t : Tid} {p : PC} (h : LockInv s) (hc : (s.pc t).crit = true)
    (hp : p.crit = true) (g : Bool) (w : Bytes) : LockInv { s with guard := g, wire := w, pc := upd s.pc t p } :=
  .of_fields rfl rfl rfl rfl rfl rfl (h.excl.stay (hp.trans hc.symm))
    (h.waiting_upd (PC.ne_waiting_of_crit hp) (PC.ne_waiting_of_crit hc))
    h.wf ⟨h.tickets, h.ticketsLt⟩ h.noFail

theorem LockInv.sendFast {s : Sys} {t : Tid} (h : LockInv s) (hidle : s.pc t = .idle)
    (hfree : s.lock.locked = false) (hempty : s.lock.waiters = []) :
    LockInv (Sys.grant { s with lock := { s.lock with locked := true }, next := s.next + 1,
                                ticket := upd s.ticket t s.next } t) := by
  have hx := h.excl; rw [hfree] at hx
  refine .of_fields rfl rfl rfl rfl rfl rfl (hx.enter t rfl)
    (h.waiting_upd PC.noConfusion (by rw [hidle]; exact PC.noConfusion)) (.fast hempty) ?_ h.noFail
  -- nobody is queued: the line of tickets is `granted`
  simpa only [hempty, List.map_nil, List.append_nil, grant_granted, grant_lock, grant_next, upd_same]
    using tickets_push h.tickets h.ticketsLt

theorem LockInv.sendPark {s : Sys} {t : Tid} (h : LockInv s) (hidle : s.pc t = .idle)
    (hbusy : s.lock.locked = true ∨ s.lock.waiters ≠ []) :
    LockInv { s with lock := { s.lock with waiters := s.lock.waiters ++ [(t, false)] }, next := s.next + 1,
                     ticket := upd s.ticket t s.next, pc := upd s.pc t .waiting } := by
  have htn : t ∉ s.lock.waiters.map (·.1) := fun hm => by have := (h.waiting t).2 hm; rw [hidle] at this; cases this
  refine .of_fields rfl rfl rfl rfl rfl rfl (h.excl.stay (hidle ▸ rfl)) (fun u => ?_) (h.wf.park htn hbusy) ?_
    h.noFail
  · show upd s.pc t .waiting u = .waiting ↔ u ∈ (s.lock.waiters ++ [(t, false)]).map (·.1)
    rw [List.map_append, List.mem_append, ← h.waiting u, upd_apply]; split
    · rename_i hu; exact iff_of_true rfl (.inr (List.mem_singleton.2 hu))
    · rename_i hu; exact (or_iff_left fun hm => hu (List.mem_singleton.1 hm)).symm
  · -- the tickets of the tasks already queued are not touched, the new one is `next`
    have hmap : s.lock.waiters.map (fun w => upd s.ticket t s.next w.1) = s.lock.waiters.map (fun w => s.ticket w.1) :=
      List.map_congr_left fun w hw => upd_other _ _ _ _ fun hx => htn (hx ▸ List.mem_map_of_mem hw)
    dsimp only
    rw [List.map_append, hmap, ← List.append_assoc, List.map_cons, List.map_nil, upd_same]
    exact tickets_push h.tickets h.ticketsLt

/-- the woken head waiter takes the lock -/
theorem LockInv.resume {s s' : Sys} (t : Tid) (h : LockInv s) (hw : s.pc t = .waiting) (hset : s.lock.isSet t = true)
    (hpc : s'.pc = upd s.pc t .holding) (hlock : s'.lock = s.lock.acquireResume t)
    (hgr : s'.granted = s.granted ++ [s.ticket t]) (htk : s'.ticket = s.ticket)
    (hnext : s'.next = s.next) (hres : s'.res = s.res) : LockInv s' := by
  obtain ⟨hfree, rest, hws⟩ := h.wf.set_is_head hset
  have hx := h.excl; rw [hfree] at hx
  have ht := h.tickets; have hb := h.ticketsLt
  rw [hws] at ht hb
  refine .of_fields hpc hlock hgr htk hnext hres (hx.enter t rfl) (h.waiting_remove PC.noConfusion)
    (h.wf.resume hset) ?_ h.noFail
  unfold FairLock.acquireResume
  rw [hws, removeWaiter_head, List.append_assoc]; exact ⟨ht, hb⟩

/-- a parked sender is cancelled -/
theorem LockInv.cancel {s s' : Sys} (t : Tid) (h : LockInv s) (hw : s.pc t = .waiting)
    (hpc : s'.pc = upd s.pc t .idle) (hlock : s'.lock = s.lock.acquireCancel t)
    (hgr : s'.granted = s.granted) (htk : s'.ticket = s.ticket)
    (hnext : s'.next = s.next) (hres : s'.res = upd s.res t (s.res t ++ [.cancelled])) : LockInv s' := by
  have hsub := ((removeWaiter_sublist t s.lock.waiters).map (fun w => s.ticket w.1)).append_left s.granted
  refine .of_fields hpc hlock hgr htk hnext hres ?_ (fun u => ?_) (h.wf.cancel t) ?_ (noFail_complete h.noFail t rfl)
  · rw [acquireCancel_locked]; exact h.excl.stay (hw ▸ rfl)
  · rw [show (s.lock.acquireCancel t).waiters.map (·.1) = (removeWaiter t s.lock.waiters).map (·.1) from
      acquireCancel_map_fst id _ t]
    exact h.waiting_remove PC.noConfusion u
  · rw [acquireCancel_map_fst]
    exact ⟨h.tickets.sublist hsub, fun x hx => h.ticketsLt x (hsub.subset hx)⟩

/-- the owner leaves the `async with lock` block: `release()` -/
theorem LockInv.release {s s' : Sys} (t : Tid) (o : Outcome) (h : LockInv s) (hc : (s.pc t).crit = true)
    (ho : o.failed = false)
    (hpc : s'.pc = upd s.pc t .idle) (hlock : s'.lock = s.lock.release.1)
    (hgr : s'.granted = s.granted) (htk : s'.ticket = s.ticket)
    (hnext : s'.next = s.next) (hres : s'.res = upd s.res t (s.res t ++ [o])) : LockInv s' := by
  have hrel := release_of_locked (h.locked.2 ⟨t, hc⟩)
  refine .of_fields hpc (hlock.trans (congrArg Prod.fst hrel)) hgr htk hnext hres ?_ (fun u => ?_) h.wf.release ?_
    (noFail_complete h.noFail t ho)
  · rw [wakeUpFirst_locked]; exact h.excl.leave hc rfl
  · rw [wakeUpFirst_fst]
    exact h.waiting_upd PC.noConfusion (PC.ne_waiting_of_crit hc) u
  · rw [wakeUpFirst_map_fst]; exact ⟨h.tickets, h.ticketsLt⟩

/-- The lock owner finds the ResourceGuard free, since whoever holds the guard owns the lock too.  This is why no call
    through the lock ends in BusyResourceError. -/
theorem LockInv.guard_free {cfg : Cfg} {s : Sys} {t : Tid} (h : LockInv s) (hw : WireInv cfg s)
    (hc : s.pc t = .holding) : ¬ s.guard = true := fun hg => by
  obtain ⟨u, hu⟩ := hw.guard.1 hg
  obtain rfl := h.one u t (PC.crit_of_isSending hu) (by rw [hc]; rfl)
  rw [hc] at hu; cases hu

/-- `s₀` is the state `release()` is applied to, which `ret` has already changed outside the lock. -/
theorem LockInv.unlock {cfg : Cfg} {s s₀ : Sys} {t : Tid} (hul : cfg.useLock = true) (h : LockInv s)
    (hc : (s.pc t).crit = true) (h₀ : s₀.lock = s.lock) :
    s₀.unlock cfg = ({ s₀ with lock := s.lock.release.1 }, true) := by
  unfold Sys.unlock
  rw [if_pos hul, h₀, release_of_locked (h.locked.2 ⟨t, hc⟩)]

theorem LockInv.step {cfg : Cfg} {s s' : Sys} {e : Ev} (hul : cfg.useLock = true) (hw : WireInv cfg s)
    (h : LockInv s) (hs : step cfg s e = some s') : LockInv s' := by
  cases Step.of_step hs with
  | fast t hi _ hfree hempty => exact h.sendFast hi hfree hempty
  | park t hi _ hbusy => exact h.sendPark hi hbusy
  | bare t _ hno => rw [hul] at hno; cases hno
  | resume t hwt hset => exact h.resume t hwt hset rfl rfl rfl rfl rfl rfl
  | cancel t hwt => exact h.cancel t hwt rfl rfl rfl rfl rfl rfl
  | xmit t hc =>
    unfold Sys.enter; rw [if_neg (h.guard_free hw hc)]
    exact h.critStay (hc ▸ rfl) rfl _ _
  | write t n rest hc => exact h.critStay (hc ▸ rfl) rfl _ _
  | ret t hc =>
    rw [h.unlock hul (s₀ := { s with guard := false }) (t := t) (hc ▸ rfl) rfl]
    exact h.release t _ (hc ▸ rfl) rfl rfl rfl rfl rfl rfl rfl
  | rel t hc =>
    rw [h.unlock hul (t := t) (hc ▸ rfl) rfl]
    exact h.release t _ (hc ▸ rfl) rfl rfl rfl rfl rfl rfl rfl

theorem inv_run {cfg : Cfg} (hul : cfg.useLock = true) {evs : List Ev} {s s' : Sys}
    (hw : WireInv cfg s) (h : LockInv s) (hr : run cfg s evs = some s') : WireInv cfg s' ∧ LockInv s' :=
  run_induct (P := fun s => WireInv cfg s ∧ LockInv s) (fun h hs => ⟨h.1.step hs, h.2.step hul h.1 hs⟩) ⟨hw, h⟩ hr

theorem inv_init {cfg : Cfg} (hul : cfg.useLock = true) {evs : List Ev} {s : Sys}
    (h : run cfg Sys.init evs = some s) : WireInv cfg s ∧ LockInv s :=
  inv_run hul (WireInv.init cfg) LockInv.init h

end EasyNet.C12

/-
  C12: `step` read as a relation (`Step`), the discipline of a flag held by one task at a time (`Excl`), and the
  wire invariant.  The invariant rests on the ResourceGuard alone (at most one sender is inside the transport),
  so it holds with and without the lock above the endpoint.
-/
import EasyNet.Lemmas.SendersList
namespace EasyNet.C12
open EasyNet

def PC.isSending : PC → Bool
  | .sending _ => true
  | _ => false

/-- the bytes of the packets listed in `order`, concatenated -/
def flat (cfg : Cfg) (order : List (Tid × Nat)) : Bytes :=
  (order.map (fun p => cfg.pkt p.1 p.2)).flatten

theorem flat_append (cfg : Cfg) (a b : List (Tid × Nat)) : flat cfg (a ++ b) = flat cfg a ++ flat cfg b := by
  simp [flat]

theorem flat_singleton (cfg : Cfg) (t i : Nat) : flat cfg [(t, i)] = cfg.pkt t i := List.append_nil _

section fields
variable (cfg : Cfg) (s : Sys) (t : Tid) (o : Outcome)

theorem unlock_fst : (s.unlock cfg).1 = { s with lock := (s.unlock cfg).1.lock } := by
  unfold Sys.unlock; split <;> rfl

@[simp] theorem complete_guard : (s.complete t o).guard = s.guard := rfl
@[simp] theorem complete_wire : (s.complete t o).wire = s.wire := rfl
@[simp] theorem complete_lock : (s.complete t o).lock = s.lock := rfl
@[simp] theorem complete_order : (s.complete t o).order = s.order := rfl
@[simp] theorem complete_next : (s.complete t o).next = s.next := rfl
@[simp] theorem complete_ticket : (s.complete t o).ticket = s.ticket := rfl
@[simp] theorem complete_granted : (s.complete t o).granted = s.granted := rfl
@[simp] theorem complete_pc : (s.complete t o).pc = upd s.pc t .idle := rfl
@[simp] theorem complete_idx : (s.complete t o).idx = upd s.idx t (s.idx t + 1) := rfl
@[simp] theorem complete_res : (s.complete t o).res = upd s.res t (s.res t ++ [o]) := rfl

@[simp] theorem grant_guard : (s.grant t).guard = s.guard := rfl
@[simp] theorem grant_wire : (s.grant t).wire = s.wire := rfl
@[simp] theorem grant_lock : (s.grant t).lock = s.lock := rfl
@[simp] theorem grant_order : (s.grant t).order = s.order := rfl
@[simp] theorem grant_idx : (s.grant t).idx = s.idx := rfl
@[simp] theorem grant_res : (s.grant t).res = s.res := rfl
@[simp] theorem grant_next : (s.grant t).next = s.next := rfl
@[simp] theorem grant_ticket : (s.grant t).ticket = s.ticket := rfl
@[simp] theorem grant_pc : (s.grant t).pc = upd s.pc t .holding := rfl
@[simp] theorem grant_granted : (s.grant t).granted = s.granted ++ [s.ticket t] := rfl

end fields

theorem acquireCall_eq (l : FairLock) (t : Tid) :
    (l.locked = false ∧ l.waiters = [] ∧ l.acquireCall t = ({ l with locked := true }, true)) ∨
    ((l.locked = true ∨ l.waiters ≠ []) ∧
      l.acquireCall t = ({ l with waiters := l.waiters ++ [(t, false)] }, false)) := by
  obtain ⟨_ | _, _ | _⟩ := l
  · exact .inl ⟨rfl, rfl, rfl⟩
  · exact .inr ⟨.inr (List.cons_ne_nil _ _), rfl⟩
  · exact .inr ⟨.inl rfl, rfl⟩
  · exact .inr ⟨.inl rfl, rfl⟩

/-- The branches of `step`, with the test of `acquireCall` decoded.  The invariants are proved by elimination of
    this relation, one lemma per kind of step. -/
inductive Step (cfg : Cfg) (s : Sys) : Ev → Sys → Prop
  | fast (t : Tid) : s.pc t = .idle → cfg.useLock = true → s.lock.locked = false → s.lock.waiters = [] →
      Step cfg s (.send t)
        (Sys.grant { s with lock := { s.lock with locked := true }, next := s.next + 1, ticket := upd s.ticket t s.next } t)
  | park (t : Tid) : s.pc t = .idle → cfg.useLock = true → (s.lock.locked = true ∨ s.lock.waiters ≠ []) →
      Step cfg s (.send t)
        { s with lock := { s.lock with waiters := s.lock.waiters ++ [(t, false)] }, next := s.next + 1,
                 ticket := upd s.ticket t s.next, pc := upd s.pc t .waiting }
  | bare (t : Tid) : s.pc t = .idle → cfg.useLock = false → Step cfg s (.send t) (s.enter cfg t)
  | resume (t : Tid) : s.pc t = .waiting → s.lock.isSet t = true →
      Step cfg s (.resume t) (Sys.grant { s with lock := s.lock.acquireResume t } t)
  | cancel (t : Tid) : s.pc t = .waiting →
      Step cfg s (.cancel t) (Sys.complete { s with lock := s.lock.acquireCancel t } t .cancelled)
  | xmit (t : Tid) : s.pc t = .holding → Step cfg s (.xmit t) (s.enter cfg t)
  | write (t : Tid) (n : Nat) (rest : Bytes) : s.pc t = .sending rest →
      Step cfg s (.write t n) { s with wire := s.wire ++ rest.take n, pc := upd s.pc t (.sending (rest.drop n)) }
  | ret (t : Tid) : s.pc t = .sending [] →
      Step cfg s (.ret t)
        (Sys.complete { (Sys.unlock cfg { s with guard := false }).1 with order := s.order ++ [(t, s.idx t)] } t
          (if (Sys.unlock cfg { s with guard := false }).2 then .ok else .sentLockError))
  | rel (t : Tid) : s.pc t = .holding →
      Step cfg s (.rel t) ((s.unlock cfg).1.complete t (if (s.unlock cfg).2 then .released else .lockError))

theorem Step.of_step {cfg : Cfg} {s s' : Sys} {e : Ev} (h : step cfg s e = some s') : Step cfg s e s' := by
  cases e with
  | send t =>
    obtain ⟨hidle, h⟩ := Option.ite_none_right_eq_some.1 h
    by_cases hul : cfg.useLock = true
    · rw [if_pos hul] at h
      rcases acquireCall_eq s.lock t with ⟨h1, h2, h3⟩ | ⟨h1, h3⟩
      · rw [h3, if_pos rfl] at h; exact Option.some.inj h ▸ .fast t hidle hul h1 h2
      · rw [h3, if_neg Bool.false_ne_true] at h; exact Option.some.inj h ▸ .park t hidle hul h1
    · rw [if_neg hul] at h; exact Option.some.inj h ▸ .bare t hidle (Bool.eq_false_iff.2 hul)
  | resume t => obtain ⟨hc, h⟩ := Option.ite_none_right_eq_some.1 h; exact Option.some.inj h ▸ .resume t hc.1 hc.2
  | cancel t => obtain ⟨hc, h⟩ := Option.ite_none_right_eq_some.1 h; exact Option.some.inj h ▸ .cancel t hc
  | xmit t => obtain ⟨hc, h⟩ := Option.ite_none_right_eq_some.1 h; exact Option.some.inj h ▸ .xmit t hc
  | write t n =>
    simp only [step] at h
    split at h
    · rename_i rest hc; exact Option.some.inj h ▸ .write t n rest hc
    · cases h
  | ret t => obtain ⟨hc, h⟩ := Option.ite_none_right_eq_some.1 h; exact Option.some.inj h ▸ .ret t hc
  | rel t => obtain ⟨hc, h⟩ := Option.ite_none_right_eq_some.1 h; exact Option.some.inj h ▸ .rel t hc

theorem run_induct {cfg : Cfg} {P : Sys → Prop} (hstep : ∀ {s e s'}, P s → step cfg s e = some s' → P s')
    {evs : List Ev} {s s' : Sys} (h : P s) (hr : run cfg s evs = some s') : P s' := by
  induction evs generalizing s with
  | nil => cases hr; exact h
  | cons e es ih =>
    cases hs : step cfg s e with
    | none => rw [run, hs] at hr; cases hr
    | some s1 => rw [run, hs] at hr; exact ih (hstep h hs) hr

/-- Flag `b` is up exactly while some task is at a program point satisfying `f`, and at most one task is.
    This is the discipline of the ResourceGuard (`f = isSending`) and of the lock (`f = crit`). -/
structure Excl (f : PC → Bool) (pc : Tid → PC) (b : Bool) : Prop where
  flag : b = true ↔ ∃ t, f (pc t) = true
  one : ∀ t u, f (pc t) = true → f (pc u) = true → t = u

namespace Excl
variable {f : PC → Bool} {pc : Tid → PC} {b : Bool} {t : Tid} {p : PC}

theorem free (h : Excl f pc false) (u : Tid) : f (pc u) = false :=
  Bool.eq_false_iff.2 fun hu => nomatch h.flag.2 ⟨u, hu⟩

theorem of_free (h : ∀ u, f (pc u) = false) : Excl f pc false :=
  ⟨iff_of_false Bool.false_ne_true fun ⟨u, hu⟩ => (nomatch (h u).symm.trans hu),
   fun u _ hu => (nomatch (h u).symm.trans hu)⟩

theorem enter (h : Excl f pc false) (t : Tid) (hp : f p = true) : Excl f (upd pc t p) true := by
  have key : ∀ u, f (upd pc t p u) = true → u = t := by
    intro u hu; rw [upd_apply] at hu; split at hu
    · assumption
    · rw [h.free] at hu; cases hu
  exact ⟨iff_of_true rfl ⟨t, (congrArg f (upd_same pc t p)).trans hp⟩, fun a b ha hb => (key a ha).trans (key b hb).symm⟩

theorem leave (h : Excl f pc b) (ht : f (pc t) = true) (hp : f p = false) : Excl f (upd pc t p) false :=
  of_free fun u => by
    rw [upd_apply]; split
    · exact hp
    · rename_i hu; exact Bool.eq_false_iff.2 fun hfu => hu (h.one u t hfu ht)

theorem stay (h : Excl f pc b) (hp : f p = f (pc t)) : Excl f (upd pc t p) b := by
  have key := apply_upd f hp
  exact ⟨by simp only [key]; exact h.flag, by simp only [key]; exact h.one⟩

end Excl

structure WireInv (cfg : Cfg) (s : Sys) : Prop where
  /-- at most one sender is inside the transport -/
  one : ∀ t u, (s.pc t).isSending = true → (s.pc u).isSending = true → t = u
  /-- the guard is held exactly while a sender is inside the transport -/
  guard : s.guard = true ↔ ∃ t, (s.pc t).isSending = true
  /-- the wire = the completed packets, in completion order, followed by a prefix of the packet in flight -/
  wire : ∃ pre, s.wire = flat cfg s.order ++ pre ∧
      (∀ t r, s.pc t = .sending r → cfg.pkt t (s.idx t) = pre ++ r) ∧
      ((∀ t, (s.pc t).isSending = false) → pre = [])
  len : ∀ t, (s.res t).length = s.idx t
  /-- the packets of sender `t` on the wire are exactly its successful calls, in call order -/
  ord : ∀ t, (s.order.filter (fun p => p.1 == t)).map (·.2) = okIdx (s.res t) 0

theorem WireInv.init (cfg : Cfg) : WireInv cfg Sys.init :=
  have e : Excl PC.isSending Sys.init.pc Sys.init.guard := .of_free fun _ => rfl
  ⟨e.one, e.flag, ⟨[], rfl, fun _ _ h => (nomatch h), fun _ => rfl⟩, fun _ => rfl, fun _ => rfl⟩

namespace WireInv
variable {cfg : Cfg} {s s' : Sys} {t : Tid} {p : PC} {o : Outcome}

theorem excl (h : WireInv cfg s) : Excl PC.isSending s.pc s.guard := ⟨h.guard, h.one⟩

/-- the invariant does not read `lock`, `next`, `ticket`, `granted` -/
theorem congr (h : WireInv cfg s)
    (e : { s' with lock := s.lock, next := s.next, ticket := s.ticket, granted := s.granted } = s) :
    WireInv cfg s' := by
  rw [← e] at h; exact ⟨h.one, h.guard, h.wire, h.len, h.ord⟩

theorem setPc (h : WireInv cfg s) (hns : (s.pc t).isSending = false) (hp : p.isSending = false) :
    WireInv cfg { s with pc := upd s.pc t p } := by
  obtain ⟨pre, hwire, hfl, hq⟩ := h.wire
  have e := h.excl.stay (t := t) (hp.trans hns.symm)
  refine ⟨e.one, e.flag, ⟨pre, hwire, ?_, ?_⟩, h.len, h.ord⟩
  · intro u r (hu : upd s.pc t p u = .sending r)
    rw [upd_apply] at hu; split at hu
    · rw [hu] at hp; cases hp
    · exact hfl u r hu
  · intro hall; exact hq fun u => (apply_upd _ (hp.trans hns.symm) u).symm.trans (hall u)

/-- the ghost bookkeeping of a finished call: its index enters `order` exactly when the outcome wrote the packet -/
theorem book (h : WireInv cfg s) (t : Tid) (o : Outcome) (u : Tid) :
    (upd s.res t (s.res t ++ [o]) u).length = upd s.idx t (s.idx t + 1) u ∧
    ((s.order ++ if o.written then [(t, s.idx t)] else []).filter (fun p => p.1 == u)).map (·.2) =
      okIdx (upd s.res t (s.res t ++ [o]) u) 0 := by
  rw [List.filter_append, List.map_append, h.ord u]
  simp only [upd_apply]
  split
  · rename_i hu; subst hu
    rw [List.length_append, okIdx_append, h.len u, Nat.zero_add]
    refine ⟨rfl, ?_⟩
    cases hw : o.written <;> simp [okIdx, hw]
  · rename_i hu
    refine ⟨h.len u, ?_⟩
    cases o.written <;> simp [Ne.symm hu]

theorem complete (h : WireInv cfg s) (hns : (s.pc t).isSending = false) (ho : o.written = false) :
    WireInv cfg (s.complete t o) := by
  have h1 := h.setPc (t := t) (p := .idle) hns rfl
  obtain ⟨pre, hwire, hfl, hq⟩ := h1.wire
  have hb := h.book t o
  rw [ho] at hb
  refine ⟨h1.one, h1.guard, ⟨pre, hwire, ?_, hq⟩, fun u => (hb u).1, fun u => by simpa using (hb u).2⟩
  intro u r (hu : upd s.pc t .idle u = .sending r)
  have hut : u ≠ t := by rintro rfl; rw [upd_same] at hu; cases hu
  rw [complete_idx, upd_other _ _ _ _ hut]; exact hfl u r hu

theorem unlock_complete (h : WireInv cfg s) (hns : (s.pc t).isSending = false) {x y : Outcome}
    (hx : x.written = false) (hy : y.written = false) :
    WireInv cfg ((s.unlock cfg).1.complete t (if (s.unlock cfg).2 then x else y)) := by
  rw [unlock_fst]
  refine (h.complete hns ?_).congr rfl
  cases (s.unlock cfg).2 <;> assumption

theorem inflight (h : WireInv cfg s) {g' : Bool} {w' pre' r' : Bytes}
    (e : Excl PC.isSending (upd s.pc t (.sending r')) g') (hw' : w' = flat cfg s.order ++ pre')
    (hp : cfg.pkt t (s.idx t) = pre' ++ r') :
    WireInv cfg { s with guard := g', wire := w', pc := upd s.pc t (.sending r') } := by
  refine ⟨e.one, e.flag, ⟨pre', hw', ?_, ?_⟩, h.len, h.ord⟩
  · intro u r (hu : upd s.pc t _ u = .sending r)
    obtain rfl : u = t := e.one u t (by rw [hu]; rfl) (by rw [upd_same]; rfl)
    rw [upd_same] at hu; cases hu; exact hp
  · intro hall; have : (upd s.pc t _ t).isSending = false := hall t; rw [upd_same] at this; cases this

theorem enter (h : WireInv cfg s) (hns : (s.pc t).isSending = false) : WireInv cfg (s.enter cfg t) := by
  unfold Sys.enter
  split
  · exact h.unlock_complete hns rfl rfl
  · rename_i hg
    have hx := h.excl; rw [Bool.eq_false_iff.2 hg] at hx
    obtain ⟨pre, hwire, -, hq⟩ := h.wire
    obtain rfl : pre = [] := hq hx.free
    exact h.inflight (hx.enter t rfl) hwire rfl

theorem write (h : WireInv cfg s) (n : Nat) {rest : Bytes} (hpc : s.pc t = .sending rest) :
    WireInv cfg { s with wire := s.wire ++ rest.take n, pc := upd s.pc t (.sending (rest.drop n)) } := by
  obtain ⟨pre, hwire, hfl, -⟩ := h.wire
  refine h.inflight (pre' := pre ++ rest.take n) (h.excl.stay (by rw [hpc]; rfl)) (by rw [hwire, List.append_assoc]) ?_
  rw [hfl t rest hpc, List.append_assoc, List.take_append_drop]

theorem ret (h : WireInv cfg s) (hpc : s.pc t = .sending []) (ho : o.written = true) :
    WireInv cfg (Sys.complete { s with guard := false, order := s.order ++ [(t, s.idx t)] } t o) := by
  have e := h.excl.leave (t := t) (p := .idle) (by rw [hpc]; rfl) rfl
  obtain ⟨pre, hwire, hfl, -⟩ := h.wire
  have hb := h.book t o
  rw [ho] at hb
  refine ⟨e.one, e.flag, ⟨[], ?_, ?_, fun _ => rfl⟩, fun u => (hb u).1, fun u => (hb u).2⟩
  · have hp : cfg.pkt t (s.idx t) = pre := (hfl t [] hpc).trans (List.append_nil _)
    show s.wire = flat cfg (s.order ++ [(t, s.idx t)]) ++ []
    rw [flat_append, flat_singleton, hwire, List.append_nil, hp]
  · intro u r (hu : upd s.pc t .idle u = .sending r); have := e.free u; rw [hu] at this; cases this

protected theorem step {e : Ev} (h : WireInv cfg s) (hs : step cfg s e = some s') : WireInv cfg s' := by
  cases Step.of_step hs with
  | fast t hi | park t hi | resume t hi => exact (h.setPc (congrArg PC.isSending hi) rfl).congr rfl
  | cancel t hw => exact (h.complete (congrArg PC.isSending hw) rfl).congr rfl
  | bare t hi | xmit t hi => exact h.enter (congrArg PC.isSending hi)
  | write t n rest hc => exact h.write n hc
  | ret t hc =>
    rw [unlock_fst]
    refine (h.ret hc ?_).congr rfl
    cases (Sys.unlock cfg _).2 <;> rfl
  | rel t hc => exact h.unlock_complete (congrArg PC.isSending hc) rfl rfl

protected theorem run {evs : List Ev} (h : WireInv cfg s) (hr : run cfg s evs = some s') : WireInv cfg s' :=
  run_induct (fun h hs => h.step hs) h hr

end WireInv

end EasyNet.C12

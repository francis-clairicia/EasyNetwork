/-
  Lemmas for C15: the request receivers and the handler driver of Model/StreamServer.lean deliver, in order and
  once each, exactly what the byte-level reference decoder `refRun` cuts out of the reads made.
-/
import EasyNet.Lemmas.Iface
namespace EasyNet.C15
open EasyNet

variable {κ : Type} {I : Iface κ} {spec : Bytes → SRes} {Rel : κ → Bytes → Prop}


def streamOf (tr : Transport) : Bytes := (tr.chunks.map (·.2)).flatten

/-- `Tracks` at a receive-side state -/
def Inv (spec : Bytes → SRes) (Rel : κ → Bytes → Prop) (s : RState κ) (D : List Item) : Prop :=
  ∃ h, Rel s.k h ∧ refRun spec [] s.reads = ((decodeW spec h).1, D ++ (decodeW spec h).2)

/-- `Drained` at a receive-side state -/
def Exact (spec : Bytes → SRes) (Rel : κ → Bytes → Prop) (s : RState κ) (D : List Item) : Prop :=
  ∃ h, Rel s.k h ∧ decodeW spec h = (h, []) ∧ refRun spec [] s.reads = (h, D)

/-- everything needed about a receive-side state: delivery invariant, the reads are a prefix of the stream `S`,
    and once the end of the stream was seen nothing is pending -/
structure Full (spec : Bytes → SRes) (Rel : κ → Bytes → Prop) (S : Bytes) (s : RState κ) (D : List Item) : Prop where
  inv : Inv spec Rel s D
  pre : s.reads.flatten ++ streamOf s.tr = S
  fin : s.sawEnd = true → Exact spec Rel s D ∧ s.tr.chunks = []

theorem Full.now {S : Bytes} {s : RState κ} {D : List Item} (h : Full spec Rel S s D) (n : Nat) :
    Full spec Rel S { s with now := n } D :=
  ⟨h.inv, h.pre, h.fin⟩

theorem Full.read_all {S : Bytes} {s : RState κ} {D : List Item} (h : Full spec Rel S s D) (hs : s.sawEnd = true) :
    s.reads.flatten = S := by
  have := h.pre
  rwa [streamOf, (h.fin hs).2, List.map_nil, List.flatten_nil, List.append_nil] at this

def actItems : Action → List Item
  | .item it => [it]
  | _ => []


/-- when the transport's next event happens: the arrival of the first chunk, or the end of the stream -/
def Transport.nextT (tr : Transport) : Nat :=
  match tr.chunks with
  | [] => tr.endT
  | (t, _) :: _ => t

theorem Transport.nextT_nil {tr : Transport} (h : tr.chunks = []) : tr.nextT = tr.endT := by
  unfold Transport.nextT; rw [h]

theorem Transport.nextT_cons {tr : Transport} {c : Nat × Bytes} {rest : List (Nat × Bytes)} (h : tr.chunks = c :: rest) :
    tr.nextT = c.1 := by
  unfold Transport.nextT; rw [h]

/-- the state after a read of at most `n` bytes of the first chunk `(t, d)`, handed to the consumer, now `k2` -/
def RState.read (s : RState κ) (t : Nat) (d : Bytes) (rest : List (Nat × Bytes)) (n : Nat) (k2 : κ) : RState κ :=
  { k := k2, now := max t s.now, reads := s.reads ++ [d.take n], sawEnd := s.sawEnd,
    tr := { s.tr with chunks := if (d.drop n).isEmpty then rest else (t, d.drop n) :: rest } }

/-- One round of the loop of `next()`: either nothing is read — no item is handed out, and a TimeoutError means that the
    deadline had passed already or passes before the transport's next event — or the first chunk is read and handed to
    the consumer. -/
theorem recvLoop_round (I : Iface κ) (fuel : Nat) (s : RState κ) (dl : Option Nat) :
    (∃ n e a, recvLoop I (fuel + 1) s dl = ({ s with k := (I.want s.k).1, now := n, sawEnd := e }, a) ∧
      actItems a = [] ∧ (e = true → s.sawEnd = true ∨ s.tr.chunks = []) ∧
      (a = .timeout → dlPassed dl s.now = true ∨ n = atDeadline dl s.now ∧ expired dl (max s.tr.nextT s.now) = true)) ∨
    ∃ t d rest, s.tr.chunks = (t, d) :: rest ∧ expired dl (max t s.now) = false ∧
      recvLoop I (fuel + 1) s dl =
        match I.feed (I.want s.k).1 (d.take (I.want s.k).2) with
        | (k2, some it) => (s.read t d rest (I.want s.k).2 k2, .item it)
        | (k2, none) => recvLoop I fuel (s.read t d rest (I.want s.k).2 k2) dl := by
  rw [recvLoop]
  by_cases hp : dlPassed dl s.now = true
  · exact .inl ⟨s.now, s.sawEnd, _, if_pos hp, rfl, .inl, fun _ => .inl hp⟩
  · rw [if_neg hp]
    by_cases hx : expired dl (max s.tr.nextT s.now) = true
    · refine .inl ⟨_, s.sawEnd, .timeout, ?_, rfl, .inl, fun _ => .inr ⟨rfl, hx⟩⟩
      unfold Transport.nextT at hx
      split at hx <;> rename_i hc <;> rw [hc] <;> exact if_pos hx
    · cases hc : s.tr.chunks with
      | nil =>
        rw [Transport.nextT_nil hc] at hx
        dsimp only
        rw [if_neg hx]
        -- the end of the stream is reported as EOF or as an error, never as a timeout
        cases s.tr.endKind <;> (try cases s.tr.filter) <;>
          exact .inl ⟨_, true, _, rfl, rfl, fun _ => .inr rfl, nofun⟩
      | cons c rest =>
        rw [Transport.nextT_cons hc] at hx
        exact .inr ⟨c.1, c.2, rest, rfl, Bool.eq_false_iff.mpr hx, if_neg hx⟩

theorem RState.read_stream {s : RState κ} {t n : Nat} {d : Bytes} {rest : List (Nat × Bytes)} {k2 : κ}
    (hc : s.tr.chunks = (t, d) :: rest) :
    (s.read t d rest n k2).reads.flatten ++ streamOf (s.read t d rest n k2).tr = s.reads.flatten ++ streamOf s.tr := by
  have : streamOf (s.read t d rest n k2).tr = d.drop n ++ (rest.map (·.2)).flatten := by
    unfold streamOf RState.read
    dsimp only
    split
    · rename_i he; rw [List.isEmpty_iff.mp he]; rfl
    · rfl
  rw [this, ← List.append_assoc]
  simp [RState.read, streamOf, hc]

theorem RState.mem_read_chunks {s : RState κ} {t n : Nat} {d : Bytes} {rest : List (Nat × Bytes)} {k2 : κ}
    {c : Nat × Bytes} (h : c ∈ (s.read t d rest n k2).tr.chunks) : c.1 = t ∨ c ∈ rest := by
  unfold RState.read at h
  dsimp only at h
  split at h
  · exact Or.inr h
  · rcases List.mem_cons.mp h with rfl | h
    · exact Or.inl rfl
    · exact Or.inr h


/-- what `next()`, or its loop, that started at deliveries `D` guarantees of its outcome `r`: the full invariant with
    the item handed out, and a drained consumer when none is -/
def Out (spec : Bytes → SRes) (Rel : κ → Bytes → Prop) (S : Bytes) (D : List Item) (r : RState κ × Action) : Prop :=
  Full spec Rel S r.1 (D ++ actItems r.2) ∧ (actItems r.2 = [] → Exact spec Rel r.1 D)

section
variable (Sim : IfaceSim I spec Rel) (P : ProgLaws spec)
include Sim P

theorem recvLoop_full (S : Bytes) :
    ∀ (fuel : Nat) (s : RState κ) (dl : Option Nat) (D : List Item), Full spec Rel S s D → Exact spec Rel s D →
      Out spec Rel S D (recvLoop I fuel s dl) := by
  intro fuel
  induction fuel with
  | zero =>
    intro s dl D hF hD
    exact ⟨by rw [show actItems (recvLoop I 0 s dl).2 = [] from rfl, List.append_nil]; exact hF, fun _ => hD⟩
  | succ fuel ih =>
    intro s dl D hF hD
    rcases recvLoop_round I fuel s dl with ⟨n, e, a, heq, ha, he, _⟩ | ⟨t, d, rest, hc, _, heq⟩ <;> rw [heq]
    · have hw := Drained.want Sim hD
      refine ⟨?_, fun _ => hw⟩
      show Full spec Rel S _ (D ++ actItems a)
      rw [ha, List.append_nil]
      exact ⟨hw.tracks, hF.pre, fun h => ⟨hw, (he h).elim (fun hs => (hF.fin hs).2) id⟩⟩
    · have hf := Drained.feed Sim P hD (List.length_take_le (I.want s.k).2 d)
      have hend : s.sawEnd = true → False := fun hs => by have := (hF.fin hs).2; rw [hc] at this; cases this
      cases hfeed : I.feed (I.want s.k).1 (d.take (I.want s.k).2) with
      | mk k2 r =>
        rw [hfeed] at hf
        have hpre := (RState.read_stream (n := (I.want s.k).2) (k2 := k2) hc).trans hF.pre
        cases r with
        | some it => exact ⟨⟨hf.1, hpre, fun hs => (hend hs).elim⟩, nofun⟩
        | none => exact ih _ dl D ⟨(hf.2 rfl).tracks, hpre, fun hs => (hend hs).elim⟩ (hf.2 rfl)

theorem recvNext_full (S : Bytes)
    (s : RState κ) (to : Option Nat) (D : List Item) (hF : Full spec Rel S s D) :
    Out spec Rel S D (recvNext I s to) := by
  have hd := Tracks.drain Sim hF.inv
  unfold recvNext
  cases hdr : I.drainNext s.k with
  | mk k' r =>
    rw [hdr] at hd
    cases r with
    | some it =>
      refine ⟨⟨hd.1, hF.pre, fun hs => ?_⟩, nofun⟩
      -- after the end of the stream was seen nothing complete is held, so `drainNext` cannot deliver
      have := (Drained.drain Sim (hF.fin hs).1).1
      rw [hdr] at this
      cases this
    | none =>
      exact recvLoop_full Sim P S _ { s with k := k' } _ D
        ⟨(hd.2 rfl).tracks, hF.pre, fun hs => ⟨hd.2 rfl, (hF.fin hs).2⟩⟩ (hd.2 rfl)
end


/-- a TimeoutError leaves the clock at the deadline `dl`, with the transport's next event strictly later -/
def TimedOut (dl : Nat) (r : RState κ × Action) : Prop :=
  r.2 = .timeout → r.1.now = dl ∧ dl < r.1.tr.nextT

theorem recvLoop_timeout (I : Iface κ) :
    ∀ (fuel : Nat) (s : RState κ) (dl : Nat), s.now < dl → (∀ c ∈ s.tr.chunks, c.1 ≠ dl) →
      TimedOut dl (recvLoop I fuel s (some dl)) := by
  intro fuel
  induction fuel with
  | zero => intro s dl _ _ h; cases h
  | succ fuel ih =>
    intro s dl hnow hne
    rcases recvLoop_round I fuel s (some dl) with ⟨n, e, a, heq, _, _, hto⟩ | ⟨t, d, rest, hc, hx, heq⟩ <;> rw [heq]
    · intro h
      rcases hto h with hp | ⟨hn, hx⟩
      · exact absurd (of_decide_eq_true hp) (Nat.not_le.mpr hnow)
      · have : dl < max s.tr.nextT s.now := of_decide_eq_true hx
        exact ⟨hn, show dl < s.tr.nextT by omega⟩
    · have hle : ¬ dl < max t s.now := of_decide_eq_false hx
      have ht : t ≠ dl := hne (t, d) (by rw [hc]; exact List.mem_cons_self)
      cases hfeed : I.feed (I.want s.k).1 (d.take (I.want s.k).2) with
      | mk k2 r =>
        cases r with
        | some it => exact nofun
        | none =>
          refine ih _ dl (show max t s.now < dl by omega) (fun c hc' => ?_)
          rcases RState.mem_read_chunks hc' with h1 | h1
          · rw [h1]; exact ht
          · exact hne c (by rw [hc]; exact List.mem_cons_of_mem _ h1)

theorem recvNext_timeout (I : Iface κ) (s : RState κ) (to : Nat) (hto : 0 < to)
    (hne : ∀ c ∈ s.tr.chunks, c.1 ≠ s.now + to) : TimedOut (s.now + to) (recvNext I s (some to)) := by
  unfold recvNext
  cases hd : I.drainNext s.k with
  | mk k' r =>
    cases r with
    | some it => exact nofun
    | none => exact recvLoop_timeout I _ { s with k := k' } (s.now + to) (Nat.lt_add_of_pos_right hto) hne


theorem delivered_append (a b : List Obs) : delivered (a ++ b) = delivered a ++ delivered b := by
  induction a with
  | nil => rfl
  | cons x xs ih =>
    cases x with
    | req _ it _ => exact congrArg (it :: ·) ih
    | _ => exact ih

theorem delivered_finish (c : Ctx κ) : delivered (finish c) = [] := rfl

theorem delivered_closeActive (layer : Layer) (name : String) (isOc : Bool) (c : Ctx κ) :
    delivered (closeActive layer name isOc c) = [] := by
  unfold closeActive
  split <;> rfl

theorem delivered_actionObs (name : String) (t : Nat) (a : Action) : delivered (actionObs name t a) = actItems a := by
  cases a <;> rfl

theorem delivered_post (name : String) (st : Step) (last : Bool) (c : Ctx κ) : delivered (post name st last c).2 = [] := by
  unfold post
  cases st.resp <;> cases st.close <;> cases last <;> rfl

theorem post_s (name : String) (st : Step) (last : Bool) (c : Ctx κ) : (post name st last c).1.s = c.s := rfl

theorem delivered_genStart (first : Bool) (name : String) (t : Nat) (xs : List Obs) :
    delivered ((if first = true then [Obs.genStart name t] else []) ++ xs) = delivered xs := by
  cases first <;> rfl

theorem delivered_connObs (sh : Shape) : delivered (connObs sh) = [] := by
  unfold connObs
  split <;> rfl

/-- well-bracketing automaton over the observable events: `active` = the generator currently open -/
def balanced : Option String → List Obs → Bool
  | a, [] => a.isNone
  | a, .genStart n _ :: rest => a.isNone && balanced (some n) rest
  | a, .genEnd n _ _ :: rest => (a == some n) && balanced none rest
  | a, .req n _ _ :: rest => (a == some n) && balanced a rest
  | a, .errTimeout n _ :: rest => (a == some n) && balanced a rest
  | a, .errExc n _ _ :: rest => (a == some n) && balanced a rest
  | a, .resp n _ :: rest => (a == some n) && balanced a rest
  | a, .closedBy n _ :: rest => (a == some n) && balanced a rest
  | a, .taskDone _ :: rest => a.isNone && balanced a rest
  | a, .conn _ :: rest => balanced a rest
  | a, .disc _ _ :: rest => a.isNone && balanced a rest
  | a, .final _ _ _ :: rest => a.isNone && balanced a rest

theorem balanced_append_open (a b : Option String) (xs ys : List Obs)
    (h : ∀ zs, balanced b zs = true → balanced a (xs ++ zs) = true) (hy : balanced b ys = true) :
    balanced a (xs ++ ys) = true := h ys hy

/-- a generator that returns without yielding -/
theorem balanced_emptyGen (n : String) (t t' : Nat) (zs : List Obs) :
    balanced none (.genStart n t :: .genEnd n false t' :: zs) = balanced none zs := by
  simp [balanced]

theorem balanced_closeActive (layer : Layer) (n : String) (isOc : Bool) (c : Ctx κ) :
    balanced (some n) (closeActive layer n isOc c) = true := by
  unfold closeActive
  split <;> simp [balanced, finish]

theorem balanced_actionObs (n : String) (t : Nat) (a : Action) (zs : List Obs) (h : balanced (some n) zs = true) :
    balanced (some n) (actionObs n t a ++ zs) = true := by
  cases a <;> simp [actionObs, balanced, h]

theorem balanced_post (n : String) (st : Step) (last : Bool) (c : Ctx κ) (zs : List Obs)
    (h : balanced (if last then none else some n) zs = true) :
    balanced (some n) ((post n st last c).2 ++ zs) = true := by
  unfold post
  cases st.resp <;> cases st.close <;> cases last <;> simp_all [balanced]

theorem balanced_genStart (first : Bool) (n : String) (t : Nat) (zs : List Obs) (h : balanced (some n) zs = true) :
    balanced (if first then none else some n) ((if first then [Obs.genStart n t] else []) ++ zs) = true := by
  cases first <;> exact h

theorem balanced_conn (sh : Shape) (zs : List Obs) (h : balanced none zs = true) : balanced none (connObs sh ++ zs) = true := by
  unfold connObs
  split <;> simp [balanced, h]

/-- the events end with the transport closed -/
def EndsClosed (xs : List Obs) : Prop := ∃ pre a n, xs = pre ++ [Obs.final true a n]

theorem EndsClosed.finish (c : Ctx κ) : EndsClosed (finish c) := ⟨[.taskDone c.s.now], _, _, rfl⟩

theorem EndsClosed.append (xs : List Obs) {ys : List Obs} (h : EndsClosed ys) : EndsClosed (xs ++ ys) := by
  obtain ⟨pre, a, n, rfl⟩ := h
  exact ⟨xs ++ pre, a, n, (List.append_assoc ..).symm⟩

theorem EndsClosed.closeActive (layer : Layer) (name : String) (isOc : Bool) (c : Ctx κ) :
    EndsClosed (closeActive layer name isOc c) := by
  unfold C15.closeActive
  split
  · exact (EndsClosed.finish c).append [_, _]
  · exact (EndsClosed.finish c).append [_]

/-- the generator that is open before an item of the flattened handler -/
def FItem.before : FItem → Option String
  | .emptyGen _ _ => none
  | .step n _ first _ _ => if first then none else some n

/-- the generator that is open after it -/
def FItem.after : FItem → Option String
  | .emptyGen _ _ => none
  | .step n _ _ last _ => if last then none else some n

/-- the receive side moves from `s` to `s'` by a sleep, or by a sleep and one `next()` that hands out `items` -/
def Recv (I : Iface κ) (s s' : RState κ) (items : List Item) : Prop :=
  (∃ n, s' = { s with now := n } ∧ items = []) ∨
  ∃ n to, s' = (recvNext I { s with now := n } to).1 ∧ items = actItems (recvNext I { s with now := n } to).2

/-- What one item does, in the terms of the three things said of a session.  What reaches the generator is what one
    `next()` at most hands out; the events take the bracketing automaton from the generator open before the item to
    the one open after it; an item that ends the client task closes the transport. -/
structure Stepped (I : Iface κ) (it : FItem) (c : Ctx κ) (r : StepRes κ) : Prop where
  recv : Recv I c.s r.ctx.s (delivered r.obs)
  go : r.stop = false → ∀ zs, balanced it.after zs = true → balanced it.before (r.obs ++ zs) = true
  stop : r.stop = true → balanced it.before r.obs = true ∧ EndsClosed r.obs

theorem Stepped.ite {p : Prop} [Decidable p] {it : FItem} {c : Ctx κ} {x y : StepRes κ}
    (hx : p → Stepped I it c x) (hy : ¬ p → Stepped I it c y) : Stepped I it c (if p then x else y) := by
  split
  · exact hx ‹_›
  · exact hy ‹_›

theorem stepOnce_stepped (I : Iface κ) (layer : Layer) (it : FItem) (c : Ctx κ) :
    Stepped I it c (stepOnce I layer it c) := by
  cases it with
  | emptyGen name isOc =>
    refine .ite (fun _ => ?_) fun _ => .ite (fun _ => ?_) fun _ => .ite (fun _ => ?_) fun _ => ?_
    · exact ⟨.inl ⟨c.s.now, rfl, rfl⟩, nofun, fun _ => ⟨rfl, (EndsClosed.finish c).append [_]⟩⟩
    · exact ⟨.inl ⟨c.s.now, rfl, rfl⟩, fun _ zs hz => (balanced_emptyGen ..).trans hz, nofun⟩
    · exact ⟨.inl ⟨c.s.now, rfl, rfl⟩, nofun,
        fun _ => ⟨(balanced_emptyGen ..).trans rfl, (EndsClosed.finish c).append [_, _, _]⟩⟩
    · exact ⟨.inl ⟨c.s.now, rfl, rfl⟩, nofun,
        fun _ => ⟨(balanced_emptyGen ..).trans rfl, (EndsClosed.finish c).append [_, _]⟩⟩
  | step name isOc first last st =>
    -- the open generator is closed, in the context `c'`
    have close : ∀ c' : Ctx κ, Recv I c.s c'.s [] →
        Stepped I (.step name isOc first last st) c
          ⟨(if first then [Obs.genStart name c.s.now] else []) ++ closeActive layer name isOc c', c', true⟩ := by
      intro c' hr
      refine ⟨?_, nofun, fun _ => ⟨balanced_genStart _ _ _ _ (balanced_closeActive _ _ _ _),
        (EndsClosed.closeActive _ _ _ _).append _⟩⟩
      rwa [← (delivered_genStart first name c.s.now _).trans (delivered_closeActive layer name isOc c')] at hr
    refine .ite (fun h => ?_) fun _ => .ite (fun _ => close _ (.inl ⟨_, rfl, rfl⟩)) fun _ =>
      .ite (fun h => close _ (.inr ⟨_, _, rfl, by rw [h]; rfl⟩)) fun _ => ?_
    · refine ⟨.inl ⟨c.s.now, rfl, rfl⟩, nofun, fun _ => ⟨?_, (EndsClosed.finish c).append [_]⟩⟩
      rw [FItem.before, if_pos h.1]
      rfl
    · refine ⟨.inr ⟨_, _, rfl, ?_⟩, fun _ zs hz => ?_, nofun⟩
      · rw [List.append_assoc, delivered_genStart, delivered_append, delivered_actionObs, delivered_post,
          List.append_nil]
      · rw [List.append_assoc, List.append_assoc]
        exact balanced_genStart _ _ _ _ (balanced_actionObs _ _ _ _ (balanced_post _ _ _ _ _ hz))


section
variable (Sim : IfaceSim I spec Rel) (P : ProgLaws spec)
include Sim P

theorem run_full (S : Bytes) (layer : Layer) :
    ∀ (items : List FItem) (c : Ctx κ) (D : List Item), Full spec Rel S c.s D →
      Full spec Rel S (run I layer items c).2 (D ++ delivered (run I layer items c).1)
  | [], c, D, hF => by
    rw [show delivered (run I layer [] c).1 = [] from rfl, List.append_nil]
    exact hF
  | it :: rest, c, D, hF => by
    have h1 : Full spec Rel S (stepOnce I layer it c).ctx.s (D ++ delivered (stepOnce I layer it c).obs) := by
      rcases (stepOnce_stepped I layer it c).recv with ⟨n, e1, e2⟩ | ⟨n, to, e1, e2⟩ <;> rw [e1, e2]
      · rw [List.append_nil]
        exact hF.now n
      · exact (recvNext_full Sim P S _ to D (hF.now n)).1
    rw [run]
    split
    · exact h1
    · have h2 := run_full S layer rest _ _ h1
      rwa [List.append_assoc, ← delivered_append] at h2

theorem session_full (k0 : κ) (hk0 : Rel k0 [])
    (sh : Shape) (tr : Transport) :
    Full spec Rel (streamOf tr) (sessionFull I k0 sh tr).2 (delivered (sessionFull I k0 sh tr).1) := by
  have h0 : Full spec Rel (streamOf tr) (initCtx k0 tr).s [] := ⟨Tracks.init hk0, rfl, nofun⟩
  have := run_full Sim P (streamOf tr) sh.layer sh.flatten (initCtx k0 tr) [] h0
  simpa [sessionFull, delivered_append, delivered_connObs] using this

end

/-- The reads cut the stream somewhere; decoding is compositional along that cut and does not depend on the chunking of
    the reads. -/
theorem session_delivery (Sim : IfaceSim I spec Rel) {ok : Bytes → Prop} (L : SpecLaws spec ok) (k0 : κ)
    (hk0 : Rel k0 []) (sh : Shape) (tr : Transport) (hok : AllOk ok (decodeW spec (streamOf tr)).2) :
    delivered (session I k0 sh tr) <+: (decodeW spec (streamOf tr)).2 ∧
    ((sessionFull I k0 sh tr).2.sawEnd = true → delivered (session I k0 sh tr) = (decodeW spec (streamOf tr)).2) := by
  have F := session_full Sim L.prog k0 hk0 sh tr
  rw [← F.pre] at hok ⊢
  have hcomp := decodeW_append L _ _ hok
  have hind : refRun spec [] (sessionFull I k0 sh tr).2.reads = decodeW spec (sessionFull I k0 sh tr).2.reads.flatten :=
    refRun_chunk_independent L _ [] (Or.inl rfl) fun it hit => hok it (by rw [hcomp]; exact List.mem_append_left _ hit)
  refine ⟨?_, fun hs => ?_⟩
  · obtain ⟨h, _, hrun⟩ := F.inv
    rw [hcomp, ← hind, hrun]
    exact (List.prefix_append _ _).trans (List.prefix_append _ _)
  · obtain ⟨⟨h, _, _, hrun⟩, _⟩ := F.fin hs
    rw [F.pre, ← F.read_all hs, ← hind, hrun]
    rfl

/-- the flattened handler is well formed w.r.t. the generator `a` that is open before it -/
def WF : Option String → List FItem → Prop
  | a, [] => a = none
  | a, it :: rest => a = it.before ∧ WF it.after rest

theorem wf_flattenGen (name : String) (isOc : Bool) {rest : List FItem} (hrest : WF none rest)
    (steps : List Step) (first : Bool) (h : first = false → steps ≠ []) :
    WF (if first then none else some name) (flattenGen name isOc steps first ++ rest) := by
  fun_induction flattenGen name isOc steps first with
  | case1 => exact ⟨rfl, hrest⟩
  | case2 => exact absurd rfl (h rfl)
  | case3 st first => cases first <;> exact ⟨rfl, hrest⟩
  | case4 st st2 tl first ih => cases first <;> exact ⟨rfl, ih nofun⟩

theorem wf_flattenGens (gs : List (List Step)) (k : Nat) : WF none (flattenGens k gs) := by
  fun_induction flattenGens k gs with
  | case1 k => exact ⟨rfl, rfl⟩
  | case2 k g gs ih => exact wf_flattenGen (toString k) false ih g true nofun

theorem wf_flatten (sh : Shape) : WF none sh.flatten := by
  unfold Shape.flatten
  cases sh.layer with
  | low =>
    have := wf_flattenGen "0" false (rest := []) rfl (sh.gens.headD []) true nofun
    rwa [List.append_nil] at this
  | high =>
    cases sh.onconn with
    | none => exact wf_flattenGens sh.gens 0
    | some steps => exact wf_flattenGen "oc" true (wf_flattenGens sh.gens 0) steps true nofun

theorem run_trace (I : Iface κ) (layer : Layer) :
    ∀ (items : List FItem) (a : Option String) (c : Ctx κ), WF a items →
      balanced a (run I layer items c).1 = true ∧ EndsClosed (run I layer items c).1
  | [], a, c, hwf => by
    rw [show a = none from hwf]
    exact ⟨rfl, EndsClosed.finish c⟩
  | it :: rest, a, c, ⟨ha, hrest⟩ => by
    have h := stepOnce_stepped I layer it c
    rw [ha, run]
    split
    · rename_i hs
      exact h.stop hs
    · rename_i hs
      have ih := run_trace I layer rest _ (stepOnce I layer it c).ctx hrest
      exact ⟨h.go (Bool.eq_false_iff.mpr hs) _ ih.1, ih.2.append _⟩

end EasyNet.C15

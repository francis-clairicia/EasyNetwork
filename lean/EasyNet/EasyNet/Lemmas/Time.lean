/-
  Time accounting of the blocking loops: the invariant `Good` that every machine built around `_retry`
  (send_all, the sendmsg loop, the receive loop, a single `_retry`) maintains.  Both kinds of steps that take time, a
  socket call and a `select(timeout)`, are instances of `Good.tick`; a new `ElapsedTime`/`recompute_timeout` round
  only re-bases the budgets (`Good.round`).
-/
import EasyNet.Model.Timeout
namespace EasyNet

/-- everything the clock can have been spent on -/
def World.acct (w : World) : Nat := w.waited + w.over + w.unbounded + w.proc + w.lockw

def Obs.isSelect : Obs → Bool
  | .select _ _ => true
  | _ => false

def Obs.isCall : Obs → Bool
  | .call _ _ => true
  | .rcall _ => true
  | _ => false

def Obs.isLockWait : Obs → Bool
  | .lockWait _ => true
  | _ => false

def Outcome.isTimeout : Outcome → Bool
  | .timeout => true
  | _ => false

def RecvOut.isTimeout : RecvOut → Bool
  | .timeout => true
  | _ => false

def World.nsel (w : World) : Nat := w.log.countP Obs.isSelect
def World.ncall (w : World) : Nat := w.log.countP Obs.isCall
def World.nlockw (w : World) : Nat := w.log.countP Obs.isLockWait

/-- Invariant of a blocking call that started in world `w0` with a finite timeout.
    `B` = `w0.waited + T` (bound for the time spent in select), `D` = `w0.now + T` (the deadline).
    `tOut` / `tIn` / `start`: timeout of the outer loop, timeout inside `_retry`, clock at `ElapsedTime.__enter__`. -/
structure Good (B D : Nat) (tOut tIn : Tmo) (start : Nat) (w0 w : World) : Prop where
  tinv : ∃ a b ws, tOut = some a ∧ tIn = some b ∧ ws + a ≤ B ∧ w.waited + b ≤ ws + a ∧
          w.waited ≤ ws + (w.now - start) ∧ start ≤ w.now ∧ D ≤ start + a ∧ D ≤ w.now + b
  unb : w.unbounded = w0.unbounded
  lockw : w.lockw = w0.lockw
  acct : w.now + w0.acct = w0.now + w.acct
  mono : w0.waited ≤ w.waited
  zero : B = w0.waited → w.nsel = w0.nsel
  nlw : w.nlockw = w0.nlockw
  slack : w0.now + w.waited ≤ w.now + w0.waited

/-- what holds when the call ends -/
structure GoodFin (B D : Nat) (w0 w : World) (isTimeout : Bool) : Prop where
  budget : w.waited ≤ B
  unb : w.unbounded = w0.unbounded
  lockw : w.lockw = w0.lockw
  acct : w.now + w0.acct = w0.now + w.acct
  mono : w0.waited ≤ w.waited
  zero : B = w0.waited → w.nsel = w0.nsel
  nlw : w.nlockw = w0.nlockw
  slack : w0.now + w.waited ≤ w.now + w0.waited
  spent : isTimeout = true → D ≤ w.now

/-- The budgets of `Good.tinv` as a relation between numbers: `a`, `b` are what is left of the outer and the inner
    timeout, `ws` is what had been waited when the current round began (at `start`). -/
def Budgets (B D a b ws start now waited : Nat) : Prop :=
  ws + a ≤ B ∧ waited + b ≤ ws + a ∧ waited ≤ ws + (now - start) ∧ start ≤ now ∧ D ≤ start + a ∧ D ≤ now + b

namespace Budgets
variable {B D a b ws start now waited : Nat}

theorem le (h : Budgets B D a b ws start now waited) : waited + b ≤ B := Nat.le_trans h.2.1 h.1

theorem tick {b' el dw : Nat} (h : Budgets B D a b ws start now waited) (hdw : dw ≤ el) (hb : b' + dw ≤ b)
    (hD : b ≤ b' + el) : Budgets B D a b' ws start (now + el) (waited + dw) := by
  obtain ⟨h1, h2, h3, h4, h5, h6⟩ := h
  exact ⟨h1, by omega, by omega, Nat.le_trans h4 (Nat.le_add_right ..), h5, by omega⟩

theorem round (h : Budgets B D a b ws start now waited) :
    Budgets B D (a - (now - start)) (a - (now - start)) waited now now waited := by
  obtain ⟨h1, h2, h3, h4, h5, h6⟩ := h
  have hD : D ≤ now + (a - (now - start)) := by omega
  exact ⟨by omega, Nat.le_refl _, Nat.le_add_right .., Nat.le_refl _, hD, hD⟩

end Budgets

theorem Good.init (w0 : World) (tv : Nat) :
    Good (w0.waited + tv) (w0.now + tv) (some tv) (some tv) w0.now w0 w0 :=
  ⟨⟨tv, tv, w0.waited, rfl, rfl, Nat.le_refl _, Nat.le_refl _, Nat.le_add_right .., Nat.le_refl _, Nat.le_refl _,
    Nat.le_refl _⟩, rfl, rfl, rfl, Nat.le_refl _, fun _ => rfl, rfl, Nat.le_refl _⟩

theorem Good.budgets {B D tOut tIn start w0 w} (h : Good B D tOut tIn start w0 w) :
    ∃ a b ws, tOut = some a ∧ tIn = some b ∧ Budgets B D a b ws start w.now w.waited := h.tinv

theorem Good.fin {B D tOut tIn start w0 w} (h : Good B D tOut tIn start w0 w) : GoodFin B D w0 w false :=
  let ⟨_, _, _, _, _, hb⟩ := h.budgets
  { h with budget := Nat.le_trans (Nat.le_add_right ..) hb.le, spent := nofun }

theorem Good.fin_timeout {B D tOut start w0 w} (h : Good B D tOut (some 0) start w0 w) (b : Bool) :
    GoodFin B D w0 w b :=
  { h.fin with spent := fun _ => by obtain ⟨_, _, _, _, e, _, _, _, _, _, h6⟩ := h.tinv; cases e; exact h6 }

theorem Good.fin_timeout_out {B D tIn start w0 w} (h : Good B D (some 0) tIn start w0 w) (b : Bool) :
    GoodFin B D w0 w b :=
  { h.fin with
    spent := fun _ => by obtain ⟨_, _, _, e, _, _, _, _, h4, h5, _⟩ := h.tinv; cases e; exact Nat.le_trans h5 h4 }

/-- `w'` is `w` after `el` more ticks, `dw` of them spent inside the requested wait of a `select(timeout)`, none in a
    wait without timeout or on a lock -/
structure World.Tick (w w' : World) (el dw : Nat) : Prop where
  now : w'.now = w.now + el
  waited : w'.waited = w.waited + dw
  le : dw ≤ el
  acct : w'.acct = w.acct + el
  unb : w'.unbounded = w.unbounded
  lockw : w'.lockw = w.lockw
  nlw : w'.nlockw = w.nlockw

theorem World.Tick.afterCall (w : World) (o : Obs) (p : Nat) (hl : o.isLockWait = false) : World.Tick w (w.afterCall o p) p 0 :=
  ⟨rfl, rfl, Nat.zero_le _, by simp only [World.acct, World.afterCall]; omega, rfl, rfl,
   by simp [World.nlockw, World.afterCall, hl]⟩

theorem World.Tick.afterSelect (w : World) (b : Blk) (sel : List SelEv) (wv el : Nat) :
    World.Tick w (w.afterSelect b sel wv el) el (min el wv) := by
  refine ⟨rfl, rfl, Nat.min_le_left .., ?_, rfl, rfl, List.countP_cons_of_neg (by simp [Obs.isLockWait])⟩
  -- the requested part of the wait and the over-sleep add up to what the select() took
  have := Nat.sub_add_min_cancel el wv
  simp only [World.acct, World.afterSelect]
  generalize min el wv = m at *
  generalize el - wv = s at *
  omega

/-- Time passes while `_retry` has `b` ticks left and goes on with `b'`: what was waited comes out of `b` (`hb`),
    and `b` does not shrink by more than the time that passed (`hD`: the deadline stays covered). -/
theorem Good.tick {B D tOut b start w0 w w' b' el dw} (h : Good B D tOut (some b) start w0 w) (ht : World.Tick w w' el dw)
    (hsel : b = 0 → w'.nsel = w.nsel) (hb : b' + dw ≤ b) (hD : b ≤ b' + el) :
    Good B D tOut (some b') start w0 w' := by
  obtain ⟨a, _, ws, e1, e2, hB⟩ := h.budgets
  cases e2
  have hm := h.mono
  refine ⟨⟨a, b', ws, e1, rfl, ht.now ▸ ht.waited ▸ hB.tick ht.le hb hD⟩, ht.unb.trans h.unb, ht.lockw.trans h.lockw,
    ?_, ?_, fun h0 => (hsel ?_).trans (h.zero h0), ht.nlw.trans h.nlw, ?_⟩
  · have := h.acct; have := ht.now; have := ht.acct; omega
  · have := ht.waited; omega
  · have := hB.le; omega
  · have := h.slack; have := ht.now; have := ht.waited; have := ht.le; omega

theorem Good.call {B D tOut tIn start w0 w} (h : Good B D tOut tIn start w0 w) (o : Obs) (p : Nat)
    (ho : o.isSelect = false) (hl : o.isLockWait = false) :
    Good B D tOut tIn start w0 (w.afterCall o p) := by
  obtain ⟨_, b, _, _, rfl, _⟩ := h.budgets
  exact h.tick (World.Tick.afterCall w o p hl) (fun _ => List.countP_cons_of_neg (by simp [ho])) (Nat.le_refl _)
    (Nat.le_add_right ..)

theorem Good.put {B D tOut tIn start w0 w} (h : Good B D tOut tIn start w0 w) (x : Bytes) :
    Good B D tOut tIn start w0 (w.put x) :=
  { h with }

theorem Good.round {B D tOut tIn start w0 w} (h : Good B D tOut tIn start w0 w) :
    Good B D (tOut.recompute (w.now - start)) (tOut.recompute (w.now - start)) w.now w0 w := by
  obtain ⟨a, b, ws, rfl, _, hB⟩ := h.budgets
  exact { h with tinv := ⟨_, _, _, rfl, rfl, hB.round⟩ }

/-- a round that keeps the timeout handed back by `_retry` (sendmsg loop) -/
theorem Good.keep {B D tOut tIn start w0 w} (h : Good B D tOut tIn start w0 w) : Good B D tOut tIn start w0 w := h

theorem Tmo.waitTime_some_some (b : Nat) (ri : Tmo) : ∃ wv, Tmo.waitTime (some b) ri = some wv ∧ wv ≤ b ∧
    (Tmo.le (some b) ri = true → wv = b) := by
  unfold Tmo.waitTime
  cases ri with
  | none => exact ⟨b, by simp [Tmo.le], Nat.le_refl _, fun _ => rfl⟩
  | some r =>
    by_cases hle : b ≤ r
    · exact ⟨b, by simp [Tmo.le, hle], Nat.le_refl _, fun _ => rfl⟩
    · exact ⟨r, by simp [Tmo.le, hle], by omega, by simp [Tmo.le, hle]⟩

theorem SelEv.le_elapsed {e : SelEv} (h : e.avail = false) (wv : Nat) : wv ≤ e.elapsed wv := by
  cases e with
  | ready d => cases h
  | expired over => exact Nat.le_add_right ..

theorem Good.wait {B D tOut tIn start w0 w ri blk r} (h : Good B D tOut tIn start w0 w) : retryWait ri blk tIn w = r →
    match r with
    | .cont t' w' => Good B D tOut t' start w0 w'
    | .timeout w' => GoodFin B D w0 w' true
    | .exhausted w' => GoodFin B D w0 w' false
    | .rterr w' => GoodFin B D w0 w' false := by
  rintro rfl
  obtain ⟨_, b, _, _, rfl, _⟩ := h.budgets
  unfold retryWait
  cases b with
  | zero => exact h.fin_timeout true
  | succ n =>
    rw [if_neg (by simp [Tmo.isZero])]
    cases w.sel with
    | nil => exact h.fin
    | cons e sel =>
      obtain ⟨wv, hwv, hle, heq⟩ := Tmo.waitTime_some_some (n + 1) ri
      simp only [hwv]
      -- whether select() reports readiness or not, what it took comes out of the budget
      have hstep : Good B D tOut (some (n + 1 - e.elapsed wv)) start w0 (w.afterSelect blk sel wv (e.elapsed wv)) :=
        h.tick (World.Tick.afterSelect ..) (fun h0 => nomatch h0) (by omega) (by omega)
      by_cases hbr : (!e.avail && Tmo.le (some (n + 1)) ri) = true
      · -- not available although the whole remaining budget was requested: it is used up
        rw [if_pos hbr]
        simp only [Bool.and_eq_true, Bool.not_eq_true'] at hbr
        have := SelEv.le_elapsed hbr.1 wv
        have h0 : n + 1 - e.elapsed wv = 0 := by have := heq hbr.2; omega
        exact (h0 ▸ hstep).fin_timeout true
      · rw [if_neg hbr]; exact hstep

end EasyNet

/-
  The four machines built around `_retry` — a single `_retry`, send_all, the sendmsg loop and the receive loop — and
  their timeout, for every socket script: with a finite timeout they keep the time invariant `Good` (Lemmas/Time.lean);
  without one `_retry` and the receive loop never raise TimeoutError; and when `_retry` raises TimeoutError its last
  attempt blocked.
-/
import EasyNet.Lemmas.Time
namespace EasyNet

variable {B D : Nat} {w0 : World}

theorem retry_good {cls o ri tOut start sock t w} (ho : o.isSelect = false) (hl : o.isLockWait = false)
    (h : Good B D tOut t start w0 w) :
    GoodFin B D w0 (retry cls o ri sock t w).w (retry cls o ri sock t w).out.isTimeout := by
  induction sock generalizing t w with
  | nil => exact h.fin
  | cons c rest ih =>
    have hc := h.call o c.p ho hl
    unfold retry
    cases cls c.ev with
    | block b =>
      dsimp only
      cases hr : retryWait ri b t _ with
      | cont t' w' => exact ih (hc.wait hr)
      | _ => exact hc.wait hr
    | _ => exact hc.fin

theorem sendAllLoop_good {fl ri data sock s w} (h : Good B D s.tOut s.tIn s.start w0 w) :
    GoodFin B D w0 (sendAllLoop fl ri data sock s w).2 (sendAllLoop fl ri data sock s w).1.isTimeout := by
  induction sock generalizing s w with
  | nil => exact h.fin
  | cons c rest ih =>
    have hc := h.call (.call (data.length - s.total) 1) c.p rfl rfl
    unfold sendAllLoop
    cases classifySend fl c.ev with
    | ok k =>
      dsimp only
      split
      · exact (hc.put _).fin
      · exact ih (hc.round.put _)
    | block b =>
      dsimp only
      cases hr : retryWait ri b s.tIn _ with
      | cont t' w' => exact ih (hc.wait hr)
      | _ => exact hc.wait hr
    | _ => exact hc.fin

theorem sendmsgLoop_good {fix ri iov tOut start sock bufs t w} (h : Good B D tOut t start w0 w) :
    GoodFin B D w0 (sendmsgLoop fix ri iov sock bufs t w).2 (sendmsgLoop fix ri iov sock bufs t w).1.isTimeout := by
  induction sock generalizing bufs t w with
  | nil => cases bufs <;> exact h.fin
  | cons c rest ih =>
    cases bufs with
    | nil => exact h.fin
    | cons b bs =>
      have hc := h.call (.call (offered iov (b :: bs)) (min iov (bs.length + 1))) c.p rfl rfl
      unfold sendmsgLoop
      cases classifySend .plain c.ev with
      | ok k => exact ih (hc.put _)
      | block blk =>
        dsimp only
        cases hr : retryWait ri blk t _ with
        | cont t' w' => exact ih (hc.wait hr)
        | _ => exact hc.wait hr
      | _ => exact hc.fin

theorem Tmo.isZero_eq {t : Tmo} (h : t.isZero = true) : t = some 0 := by
  cases t with
  | none => cases h
  | some n => cases n with
    | zero => rfl
    | succ k => cases h

theorem Tmo.recompute_zero (e : Nat) : Tmo.recompute (some 0) e = some 0 := congrArg some (Nat.zero_sub e)

theorem recvLoop_good {κ : Type} {fl ri} {room : κ → Nat} {next sock cons tOut tIn start w}
    (h : Good B D tOut tIn start w0 w) :
    GoodFin B D w0 (recvLoop fl ri room next sock cons tOut tIn start w).w
      (recvLoop fl ri room next sock cons tOut tIn start w).out.isTimeout := by
  induction sock generalizing cons tOut tIn start w with
  | nil => exact h.fin
  | cons c rest ih =>
    have hc := h.call (.rcall (room cons)) c.p rfl rfl
    unfold recvLoop
    cases classifyRecv fl c.ev with
    | got b =>
      dsimp only
      by_cases hemp : (b.take (room cons)).isEmpty = true
      · rw [if_pos hemp]; exact hc.fin
      · rw [if_neg hemp]
        rcases next cons (b.take (room cons)) with ⟨cons', _ | it⟩
        · dsimp only
          cases hz : tOut.isZero with
          | false => exact ih hc.round
          | true =>
            -- the budget is zero: a short read ends the call after the deadline, a full one tries again at once
            cases Tmo.isZero_eq hz
            rw [if_neg (by simp)]
            by_cases hshort : (b.take (room cons)).length < room cons
            · rw [if_pos hshort]; exact hc.fin_timeout_out true
            · rw [if_neg hshort]; exact ih (Tmo.recompute_zero _ ▸ hc.round)
        · exact hc.fin
    | block blk =>
      dsimp only
      cases hr : retryWait ri blk tIn _ with
      | cont t' w' => exact ih (hc.wait hr)
      | _ => exact hc.wait hr
    | _ => exact hc.fin

theorem retryWait_none {ri : Tmo} {b : Blk} {w : World} {r : Wait} : retryWait ri b none w = r →
    match r with
    | .cont t' _ => t' = none
    | .timeout _ => False
    | .exhausted _ => True
    | .rterr _ => True := by
  rintro rfl
  unfold retryWait
  rw [if_neg (show ¬Tmo.isZero none = true from Bool.false_ne_true)]
  cases w.sel with
  | nil => trivial
  | cons e sel =>
    cases ri with
    | none => cases h : e.avail <;> simp [Tmo.waitTime, Tmo.le, h]
    | some r =>
      -- `timeout <= retry_interval` is false: a select() that reports nothing just goes round again
      simp [Tmo.waitTime, Tmo.le, Tmo.recompute]

theorem retry_none_no_timeout {cls o ri sock w} :
    (retry cls o ri sock none w).out ≠ .timeout := by
  induction sock generalizing w with
  | nil => exact nofun
  | cons c rest ih =>
    unfold retry
    cases cls c.ev with
    | block b =>
      dsimp only
      cases hr : retryWait ri b none _ with
      | cont t' w' => cases retryWait_none hr; exact ih
      | timeout w' => exact (retryWait_none hr).elim
      | _ => exact nofun
    | _ => exact nofun

theorem retry_timeout_blocked {cls o ri sock t w} : (retry cls o ri sock t w).out = .timeout →
    ∃ pre c blk, sock = pre ++ c :: (retry cls o ri sock t w).rest ∧ cls c.ev = .block blk := by
  induction sock generalizing t w with
  | nil => exact nofun
  | cons c rest ih =>
    unfold retry
    cases hcl : cls c.ev with
    | block b =>
      dsimp only
      cases retryWait ri b t (w.afterCall o c.p) with
      | cont t' w' =>
        intro h
        obtain ⟨pre, c', blk, h1, h2⟩ := ih h
        exact ⟨c :: pre, c', blk, congrArg (c :: ·) h1, h2⟩
      | timeout w' => intro _; exact ⟨[], c, b, rfl, hcl⟩
      | _ => exact nofun
    | _ => exact nofun

theorem recvLoop_none_no_timeout {κ : Type} {fl ri} {room : κ → Nat} {next sock cons start w} :
    (recvLoop fl ri room next sock cons none none start w).out ≠ .timeout := by
  induction sock generalizing cons start w with
  | nil => exact nofun
  | cons c rest ih =>
    unfold recvLoop
    cases classifyRecv fl c.ev with
    | got b =>
      dsimp only
      by_cases hemp : (b.take (room cons)).isEmpty = true
      · rw [if_pos hemp]; exact nofun
      · rw [if_neg hemp]
        rcases next cons (b.take (room cons)) with ⟨cons', _ | it⟩
        · exact ih
        · exact nofun
    | block blk =>
      dsimp only
      cases hr : retryWait ri blk none _ with
      | cont t' w' => cases retryWait_none hr; exact ih
      | timeout w' => exact (retryWait_none hr).elim
      | _ => exact nofun
    | _ => exact nofun

theorem receive_none_no_timeout {κ : Type} (fl : Flavour) (ri : Tmo) (room : κ → Nat) (next : κ → Bytes → κ × Option Item)
    (cons : κ) (eof : Bool) (sock : List SockCall) (w : World) :
    (receive fl ri room next cons eof none sock w).out ≠ .timeout := by
  unfold receive
  rcases next cons [] with ⟨cons', _ | it⟩
  · cases eof with
    | true => exact nofun
    | false => exact recvLoop_none_no_timeout
  · exact nofun

end EasyNet

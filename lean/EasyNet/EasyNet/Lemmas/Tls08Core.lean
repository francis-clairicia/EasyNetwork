/-
  C08: a generic invariant principle for the wrapper machine (Model/Tls08.lean).

  `Core` is the projection of the state on everything except the control part (locks, program counters, action log).
  Every step of the machine changes the core only through a handful of primitive updates; a predicate on cores that is
  closed under these primitives (`Closed`) is therefore an invariant of `run` — for every engine, every number of tasks
  and every event list (`run_closed`, proved with the traversal of `step` in Lemmas/Tls08Step.lean).
-/
import EasyNet.Model.Tls08
namespace EasyNet.C08
open EasyNet

theorem upd_same {α : Type} (f : Tid → α) (t : Tid) (v : α) : upd f t v t = v := by simp [upd]
theorem upd_other {α : Type} (f : Tid → α) (t u : Tid) (v : α) (h : u ≠ t) : upd f t v u = f u := by simp [upd, h]
theorem upd_self {α : Type} (f : Tid → α) (t : Tid) : upd f t (f t) = f := by
  funext u; unfold upd; split <;> simp_all

theorem upd_cases {α : Type} {f : Tid → α} {t u : Tid} {v x : α} (h : upd f t v u = x) :
    (u = t ∧ v = x) ∨ (u ≠ t ∧ f u = x) := by
  by_cases hu : u = t
  · subst hu; rw [upd_same] at h; exact .inl ⟨rfl, h⟩
  · rw [upd_other _ _ _ _ hu] at h; exact .inr ⟨hu, h⟩

theorem upd_upd {α : Type} (f : Tid → α) (t : Tid) (a b : α) : upd (upd f t a) t b = upd f t b := by
  funext u; unfold upd; split <;> rfl

structure Core (σ : Type) where
  eng : σ
  rbio : Bytes
  rEof : Bool
  wbio : List TB
  deque : List (List TB)
  written : List TB
  accepted : Bytes
  mark : Tid → Nat
  completed : List (Tid × Nat × Nat)
  xmits : List (List TB)
  outAll : List TB
  taken : Bytes
  fedAll : Bytes
  consumed : Bytes
  engRead : Bytes
  returned : Bytes
  flushed : Tid → Nat

def St.core {σ : Type} (s : St σ) : Core σ :=
  { eng := s.eng, rbio := s.rbio, rEof := s.rEof, wbio := s.wbio, deque := s.deque, written := s.written,
    accepted := s.accepted, mark := s.mark, completed := s.completed, xmits := s.xmits, outAll := s.outAll,
    taken := s.taken, fedAll := s.fedAll, consumed := s.consumed, engRead := s.engRead, returned := s.returned,
    flushed := s.flushed }

@[simp] theorem core_log {σ : Type} (s : St σ) (a : Act) : (s.log a).core = s.core := rfl
@[simp] theorem core_setPc {σ : Type} (s : St σ) (t : Tid) (p : PC) : (s.setPc t p).core = s.core := rfl
@[simp] theorem core_setLock {σ : Type} (s : St σ) (l : LockId) (k : Lock) : (s.setLock l k).core = s.core := by
  cases l <;> rfl
@[simp] theorem core_acquire {σ : Type} (s : St σ) (t : Tid) (l : LockId) : (s.acquire t l).1.core = s.core := by
  unfold St.acquire; split <;> simp
@[simp] theorem core_release {σ : Type} (s : St σ) (t : Tid) (l : LockId) : (s.release t l).core = s.core := by
  unfold St.release; simp
theorem core_grant {σ : Type} {s s1 : St σ} {t : Tid} {l : LockId} (h : s.grant t l = some s1) : s1.core = s.core := by
  unfold St.grant at h
  split at h
  · cases h; simp
  · cases h

theorem lock_setLock {σ : Type} (s : St σ) (l : LockId) (v : Lock) :
    (s.setLock l v).lock = fun l' => if l' = l then v else s.lock l' := by
  funext l'; cases l <;> cases l' <;> rfl
theorem pc_setLock {σ : Type} (s : St σ) (l : LockId) (v : Lock) : (s.setLock l v).pc = s.pc := by cases l <;> rfl
theorem wrPolicy_setLock {σ : Type} (s : St σ) (l : LockId) (v : Lock) : (s.setLock l v).wrPolicy = s.wrPolicy := by
  cases l <;> rfl

theorem Lock.free_iff {k : Lock} : k.free = true ↔ k.locked = false ∧ k.waiters = [] := by
  simp only [Lock.free, Bool.and_eq_true, Bool.not_eq_true', List.isEmpty_iff]

theorem acquire_snd {σ : Type} (s : St σ) (t : Tid) (l : LockId) : (s.acquire t l).2 = (s.lock l).free := by
  unfold St.acquire; split <;> simp_all
theorem acquire_free {σ : Type} {s : St σ} {l : LockId} (t : Tid) (h : (s.lock l).free = true) :
    (s.acquire t l).1 = (s.setLock l { locked := true, waiters := [] }).log (.acq t l) := by
  unfold St.acquire; rw [if_pos h]
theorem acquire_busy {σ : Type} {s : St σ} {l : LockId} (t : Tid) (h : (s.lock l).free = false) :
    (s.acquire t l).1 = (s.setLock l { (s.lock l) with waiters := (s.lock l).waiters ++ [t] }).log (.park t l) := by
  unfold St.acquire; rw [if_neg (by rw [h]; nofun)]

def Core.resp {σ : Type} (E : Engine σ) (c : Core σ) (call : Call) : Resp := (E.call c.eng call c.rbio c.rEof).2

def Core.engStep {σ : Type} (E : Engine σ) (c : Core σ) (call : Call) : Core σ :=
  { c with eng := (E.call c.eng call c.rbio c.rEof).1,
           rbio := c.rbio.drop (c.resp E call).cin,
           consumed := c.consumed ++ c.rbio.take (c.resp E call).cin,
           wbio := c.wbio ++ tag .bio (c.resp E call).cout,
           outAll := c.outAll ++ tag .bio (c.resp E call).cout,
           accepted := c.accepted ++ acceptedBy call (c.resp E call),
           engRead := c.engRead ++ readBy call (c.resp E call) }

theorem core_engine {σ : Type} (E : Engine σ) (s : St σ) (t : Tid) (call : Call) :
    (s.engine E t call).1.core = s.core.engStep E call := rfl

theorem resp_engine {σ : Type} (E : Engine σ) (s : St σ) (t : Tid) (call : Call) :
    (s.engine E t call).2 = s.core.resp E call := rfl

/-- what `__write_all_to_ssl_object` does to the backlog after `write(d)` answered `o` -/
def afterWrite (d : List TB) (dq : List (List TB)) : SslOut → List (List TB)
  | .ok n => if n < d.length then (if n = 0 then d :: dq else d.drop n :: dq) else dq
  | _ => d :: dq

def Core.xmit {σ : Type} (c : Core σ) : Core σ := { c with wbio := [], xmits := c.xmits ++ [c.wbio] }

def SslOut.isOk : SslOut → Bool
  | .ok _ => true
  | _ => false

/-- a predicate on cores that every primitive update preserves -/
structure Closed {σ : Type} (E : Engine σ) (P : Core σ → Prop) : Prop where
  /-- `do_handshake()`, or a `read` that did not succeed -/
  eng : ∀ (c : Core σ) (call : Call), P c → call.kind ≠ .write → (call.kind = .read → (c.resp E call).out.isOk = false) →
    P (c.engStep E call)
  /-- a successful `read` whose result is returned to the caller of recv / recv_into (no await in between) -/
  readOk : ∀ (c : Core σ) (n : Nat), P c → (c.resp E (.read n)).out.isOk = true →
    P { (c.engStep E (.read n)) with returned := c.returned ++ (c.resp E (.read n)).data }
  /-- `write(head)` and the backlog update that follows it -/
  write : ∀ (c : Core σ) (d : List TB) (dq : List (List TB)), P { c with deque := d :: dq } →
    P { (c.engStep E (.write (untag d))) with deque := afterWrite d dq (c.resp E (.write (untag d))).out }
  xmit : ∀ (c : Core σ), P c → P c.xmit
  eofs : ∀ (c : Core σ), P c → P { c with rEof := true }
  feed : ∀ (c : Core σ) (x : Bytes), P c → c.rEof = false → P { c with rbio := c.rbio ++ x, taken := c.taken ++ x, fedAll := c.fedAll ++ x }
  dropFeed : ∀ (c : Core σ) (x : Bytes), P c → P { c with taken := c.taken ++ x, rEof := true }
  enqueue : ∀ (c : Core σ) (t : Tid) (cs : List Bytes), P c →
    P { c with deque := c.deque ++ cs.map (tag .plain), written := c.written ++ (cs.map (tag .plain)).flatten,
               mark := upd c.mark t (c.written ++ (cs.map (tag .plain)).flatten).length }
  done : ∀ (c : Core σ) (t : Tid), P c → c.deque = [] → P { c with completed := c.completed ++ [(t, c.mark t, c.accepted.length)] }
  flushed : ∀ (c : Core σ) (t : Tid), P c → P { c with flushed := upd c.flushed t c.outAll.length }

section
variable {σ : Type} {E : Engine σ} {P : Core σ → Prop}

theorem xmit_core (s : St σ) :
    ({ s with wbio := [], xmits := s.xmits ++ [s.wbio] } : St σ).core = s.core.xmit := rfl

theorem eofs_core (s : St σ) :
    ({ s with rEof := true, wEof := true } : St σ).core = { s.core with rEof := true } := rfl

/-- `c'` arises from `c` by primitive updates other than `xmit` (the only one that takes bytes out of the outgoing BIO) -/
inductive CoreStep (E : Engine σ) : Core σ → Core σ → Prop
  | refl (c : Core σ) : CoreStep E c c
  | trans {a b c : Core σ} : CoreStep E a b → CoreStep E b c → CoreStep E a c
  | eng (c : Core σ) (call : Call) : call.kind ≠ .write → (call.kind = .read → (c.resp E call).out.isOk = false) →
      CoreStep E c (c.engStep E call)
  | readOk (c : Core σ) (n : Nat) : (c.resp E (.read n)).out.isOk = true →
      CoreStep E c { (c.engStep E (.read n)) with returned := c.returned ++ (c.resp E (.read n)).data }
  | write (c : Core σ) (d : List TB) (dq : List (List TB)) :
      CoreStep E { c with deque := d :: dq }
        { (c.engStep E (.write (untag d))) with deque := afterWrite d dq (c.resp E (.write (untag d))).out }
  | eofs (c : Core σ) : CoreStep E c { c with rEof := true }
  | feed (c : Core σ) (x : Bytes) : c.rEof = false →
      CoreStep E c { c with rbio := c.rbio ++ x, taken := c.taken ++ x, fedAll := c.fedAll ++ x }
  | dropFeed (c : Core σ) (x : Bytes) : CoreStep E c { c with taken := c.taken ++ x, rEof := true }
  | enqueue (c : Core σ) (t : Tid) (cs : List Bytes) :
      CoreStep E c { c with deque := c.deque ++ cs.map (tag .plain), written := c.written ++ (cs.map (tag .plain)).flatten,
                            mark := upd c.mark t (c.written ++ (cs.map (tag .plain)).flatten).length }
  | done (c : Core σ) (t : Tid) : c.deque = [] →
      CoreStep E c { c with completed := c.completed ++ [(t, c.mark t, c.accepted.length)] }
  | flushed (c : Core σ) (t : Tid) : CoreStep E c { c with flushed := upd c.flushed t c.outAll.length }

theorem Closed.step (hc : Closed E P) {c c' : Core σ} (st : CoreStep E c c') (h : P c) : P c' := by
  induction st with
  | refl => exact h
  | trans _ _ ih1 ih2 => exact ih2 (ih1 h)
  | eng c call hk hr => exact hc.eng c call h hk hr
  | readOk c n hok => exact hc.readOk c n h hok
  | write c d dq => exact hc.write c d dq h
  | eofs c => exact hc.eofs c h
  | feed c x he => exact hc.feed c x h he
  | dropFeed c x => exact hc.dropFeed c x h
  | enqueue c t cs => exact hc.enqueue c t cs h
  | done c t hd => exact hc.done c t h hd
  | flushed c t => exact hc.flushed c t h

theorem CoreStep.wbio {c c' : Core σ} (st : CoreStep E c c') (h : c.wbio ≠ []) : c'.wbio ≠ [] := by
  induction st with
  | trans _ _ ih1 ih2 => exact ih2 (ih1 h)
  | eng | readOk | write => exact List.append_ne_nil_of_left_ne_nil h _
  | _ => exact h

end
end EasyNet.C08

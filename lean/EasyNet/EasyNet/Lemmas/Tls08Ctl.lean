/-
  C08: the control invariant of the wrapper machine — the two transport locks.  `LI` is the invariant of one FIFO lock over
  the classes `cls` of the program counters; `CIs` (both locks) is preserved by every step of the machine (any engine, any
  schedule).  Consequences: the locks are exclusive, and the machine never deadlocks on them.
-/
import EasyNet.Lemmas.Tls08Step
namespace EasyNet.C08
open EasyNet

/-- invariant of one lock: `h` = class of the task inside the critical section (awaiting the transport), `w` = parked -/
structure LI (k : Tid → Cl) (h w : Cl) (lk : Lock) : Prop where
  locked : ∀ t, k t = h → lk.locked = true
  uniq : ∀ t u, k t = h → k u = h → t = u
  wait : ∀ t, k t = w ↔ t ∈ lk.waiters
  nodup : lk.waiters.Nodup
  held : lk.locked = true → ∃ t, k t = h

/-- the holder half of `LI` -/
structure HI (k : Tid → Cl) (h : Cl) (b : Bool) : Prop where
  locked : ∀ t, k t = h → b = true
  uniq : ∀ t u, k t = h → k u = h → t = u
  held : b = true → ∃ t, k t = h

/-- the queue half of `LI` -/
structure WI (k : Tid → Cl) (w : Cl) (q : List Tid) : Prop where
  wait : ∀ t, k t = w ↔ t ∈ q
  nodup : q.Nodup

section
variable {k k' : Tid → Cl} {h w x c : Cl} {lk : Lock} {b : Bool} {q : List Tid} {t : Tid}

theorem LI.hi (hl : LI k h w lk) : HI k h lk.locked := ⟨hl.locked, hl.uniq, hl.held⟩
theorem LI.wi (hl : LI k h w lk) : WI k w lk.waiters := ⟨hl.wait, hl.nodup⟩
theorem LI.of (hi : HI k h lk.locked) (wi : WI k w lk.waiters) : LI k h w lk :=
  ⟨hi.locked, hi.uniq, wi.wait, wi.nodup, hi.held⟩

theorem HI.congr (hi : HI k h b) (e : ∀ u, k' u = h ↔ k u = h) : HI k' h b :=
  ⟨fun u hu => hi.locked u ((e u).1 hu), fun u v hu hv => hi.uniq u v ((e u).1 hu) ((e v).1 hv),
   fun hb => (hi.held hb).imp fun u hu => (e u).2 hu⟩

theorem WI.congr (wi : WI k w q) (e : ∀ u, k' u = w ↔ k u = w) : WI k' w q :=
  ⟨fun u => (e u).trans (wi.wait u), wi.nodup⟩

theorem upd_iff_of_ne (hc : c ≠ x) (ht : k t ≠ x) (u : Tid) : upd k t c u = x ↔ k u = x := by
  by_cases hu : u = t
  · subst hu; rw [upd_same]; exact ⟨fun e => absurd e hc, fun e => absurd e ht⟩
  · rw [upd_other _ _ _ _ hu]

theorem HI.take (hi : HI k h false) (t : Tid) : HI (upd k t h) h true := by
  have only : ∀ u, upd k t h u = h → u = t := fun u hu =>
    (upd_cases hu).elim (·.1) fun e => nomatch hi.locked u e.2
  exact ⟨fun _ _ => rfl, fun u v hu hv => (only u hu).trans (only v hv).symm, fun _ => ⟨t, upd_same ..⟩⟩

theorem HI.drop (hi : HI k h b) (ht : k t = h) (hc : c ≠ h) : HI (upd k t c) h false := by
  have nobody : ∀ u, upd k t c u ≠ h := fun u hu =>
    (upd_cases hu).elim (fun e => hc e.2) fun e => e.1 (hi.uniq u t e.2 ht)
  exact ⟨fun u hu => absurd hu (nobody u), fun u _ hu _ => absurd hu (nobody u), nofun⟩

theorem WI.push (wi : WI k w q) (ht : k t ≠ w) : WI (upd k t w) w (q ++ [t]) := by
  refine ⟨fun u => ?_, List.nodup_append.2 ⟨wi.nodup, List.pairwise_singleton _ t, fun a ha b hb e => ?_⟩⟩
  · rw [List.mem_append, List.mem_singleton, ← wi.wait u]
    by_cases hu : u = t
    · subst hu; rw [upd_same]; exact ⟨fun _ => .inr rfl, fun _ => rfl⟩
    · rw [upd_other _ _ _ _ hu]; exact ⟨.inl, fun hx => hx.elim id fun e => absurd e hu⟩
  · cases List.mem_singleton.1 hb
    exact ht ((wi.wait t).2 (e ▸ ha))

theorem WI.pop (wi : WI k w (t :: q)) (hc : c ≠ w) : WI (upd k t c) w q := by
  have hnd := List.nodup_cons.1 wi.nodup
  refine ⟨fun u => ?_, hnd.2⟩
  by_cases hu : u = t
  · subst hu; rw [upd_same]; exact ⟨fun e => absurd e hc, fun hm => absurd hm hnd.1⟩
  · rw [upd_other _ _ _ _ hu, wi.wait u, List.mem_cons]
    exact ⟨fun hx => hx.elim (fun e => absurd e hu) id, .inr⟩

theorem LI.frame (hl : LI k h w lk) (t : Tid) (c : Cl) (h1 : k t ≠ h) (h2 : k t ≠ w) (h3 : c ≠ h) (h4 : c ≠ w) :
    LI (upd k t c) h w lk :=
  .of (hl.hi.congr (upd_iff_of_ne h3 h1)) (hl.wi.congr (upd_iff_of_ne h4 h2))

theorem LI.acqFree (hl : LI k h w lk) (hne : h ≠ w) (t : Tid) (hf : lk.free = true) :
    LI (upd k t h) h w { locked := true, waiters := [] } := by
  obtain ⟨hu, hq⟩ := Lock.free_iff.1 hf
  have wi := hq ▸ hl.wi
  exact .of (HI.take (hu ▸ hl.hi) t) (wi.congr (upd_iff_of_ne hne fun e => nomatch (wi.wait t).1 e))

theorem LI.acqPark (hl : LI k h w lk) (hne : h ≠ w) (t : Tid) (h1 : k t ≠ h) (h2 : k t ≠ w) :
    LI (upd k t w) h w { lk with waiters := lk.waiters ++ [t] } :=
  .of (hl.hi.congr (upd_iff_of_ne hne.symm h1)) (hl.wi.push h2)

theorem LI.release (hl : LI k h w lk) (t : Tid) (ht : k t = h) (c : Cl) (hc : c ≠ h) (hc' : c ≠ w) (hne : h ≠ w) :
    LI (upd k t c) h w { lk with locked := false } :=
  .of (hl.hi.drop ht hc) (hl.wi.congr (upd_iff_of_ne hc' (ht ▸ hne)))

theorem LI.grant (hl : LI k h w lk) (hne : h ≠ w) (t : Tid) (hu : lk.locked = false) (hd : lk.waiters.head? = some t) :
    LI (upd k t h) h w { locked := true, waiters := lk.waiters.tail } := by
  obtain ⟨rest, hws⟩ := List.head?_eq_some_iff.1 hd
  have wi := hl.wi
  rw [hws] at wi ⊢
  exact .of (HI.take (hu ▸ hl.hi) t) (wi.pop hne)

end

def CI (k : Tid → Cl) (lock : LockId → Lock) : Prop := ∀ l, LI k (.hold l) (.wait l) (lock l)

def kOf (pc : Tid → PC) : Tid → Cl := fun u => cls (pc u)

def CIs {σ : Type} (s : St σ) : Prop := CI (kOf s.pc) s.lock

/-- the invariant "as if task `t` were in class `c`" (while `t` is running its pc field is stale) -/
def CIv {σ : Type} (s : St σ) (t : Tid) (c : Cl) : Prop := CI (upd (kOf s.pc) t c) s.lock

theorem kOf_upd (pc : Tid → PC) (t : Tid) (p : PC) : kOf (upd pc t p) = upd (kOf pc) t (cls p) := by
  funext u; unfold kOf upd; split <;> rfl

theorem CI.init {σ : Type} (e : σ) (c : Bool) : CIs (St.init e c) := by
  intro l
  cases l <;> exact ⟨nofun, nofun, fun _ => ⟨nofun, nofun⟩, List.nodup_nil, nofun⟩

/-- the classes a task can be in while it uses lock `l` only -/
def Cl.own (l : LockId) (c : Cl) : Prop := c = .idle ∨ c = .hold l ∨ c = .wait l

theorem Cl.own.ne {l l' : LockId} {c : Cl} (h : c.own l) (hne : l' ≠ l) : c ≠ .hold l' ∧ c ≠ .wait l' := by
  cases l <;> cases l' <;> first | exact absurd rfl hne | (rcases h with rfl | rfl | rfl <;> exact ⟨nofun, nofun⟩)

section
variable {σ : Type} {E : Engine σ} {s : St σ} {t : Tid} {l : LockId}

theorem CIv.setLock {c0 c : Cl} {v : Lock} (h : CIv s t c0) (h0 : c0.own l) (h1 : c.own l)
    (hl : LI (upd (upd (kOf s.pc) t c0) t c) (.hold l) (.wait l) v) : CIv (s.setLock l v) t c := by
  intro l'
  rw [lock_setLock, pc_setLock]
  dsimp only
  have e : upd (upd (kOf s.pc) t c0) t c = upd (kOf s.pc) t c := upd_upd ..
  by_cases hl' : l' = l
  · subst hl'
    rw [if_pos rfl, ← e]; exact hl
  · rw [if_neg hl', ← e]
    exact (h l').frame t c (by rw [upd_same]; exact (h0.ne hl').1) (by rw [upd_same]; exact (h0.ne hl').2) (h1.ne hl').1 (h1.ne hl').2

theorem CIv.congr {s' : St σ} {c : Cl} (h : CIv s t c) (f : Frame s s') : CIv s' t c := by
  intro l; unfold CIv at h; rw [f.pc, f.lock]; exact h l

theorem hold_ne_wait (l : LockId) : Cl.hold l ≠ Cl.wait l := by cases l <;> nofun

theorem CIv.give (h : CIv s t (.hold l)) : CIv (s.setLock l { (s.lock l) with locked := false }) t .idle :=
  h.setLock (.inr (.inl rfl)) (.inl rfl)
    ((h l).release t (upd_same ..) _ (by cases l <;> nofun) (by cases l <;> nofun) (hold_ne_wait l))

theorem CIs.toCIv {c : Cl} (h : CIs s) (hc : kOf s.pc t = c) : CIv s t c := by
  subst hc; unfold CIv; rw [upd_self]; exact h

theorem CI.scheme : Scheme E (CIs (σ := σ)) (fun t c s => CIv s t c) where
  start := fun h _ => h.toCIv rfl
  wake := fun h hc => CIv.give (l := .send) (h.toCIv hc)
  handover := fun {s t l} h hu hd => by
    have hv := h.toCIv (((h l).wait t).2 (List.mem_of_mem_head? hd))
    exact hv.setLock (.inr (.inr rfl)) (.inr (.inl rfl)) ((hv l).grant (hold_ne_wait l) t hu hd)
  take := fun {s t l} h hf => h.setLock (.inl rfl) (.inr (.inl rfl)) ((h l).acqFree (hold_ne_wait l) t hf)
  queue := fun {s t l p} h hp _ => by
    show CI (kOf (upd _ t p)) _
    rw [kOf_upd, hp]
    exact h.setLock (.inl rfl) (.inr (.inr rfl))
      ((h l).acqPark (hold_ne_wait l) t (by rw [upd_same]; cases l <;> nofun) (by rw [upd_same]; cases l <;> nofun))
  give := CIv.give
  xmit := fun h => h
  stop := fun {s t p} h _ => by
    show CI (kOf (upd s.pc t p)) _
    rw [kOf_upd]; exact h
  core := fun h f _ => h.congr f
  quiet := fun h => h

theorem run_CI (evs : List Ev) (s s' : St σ) (h : CIs s) (hr : run E s evs = some s') : CIs s' :=
  run_scheme CI.scheme evs h hr

/-- an engine call does not touch pc / locks -/
theorem engine_ctl (s : St σ) (t : Tid) (c : Call) :
    (s.engine E t c).1.pc = s.pc ∧ (s.engine E t c).1.sendLock = s.sendLock ∧ (s.engine E t c).1.recvLock = s.recvLock :=
  ⟨rfl, rfl, rfl⟩

theorem cls_idle (p : PC) : cls p = .idle ↔ p = .idle := by cases p <;> simp [cls]

theorem resume_holder (E : Engine σ) (s : St σ) (t : Tid) (l : LockId) (h : cls (s.pc t) = .hold l) :
    ∃ io, (resume E s t io).isSome = true := by
  cases hp : s.pc t with
  | wrSend m | wwSend m | okSend m => exact ⟨.ok, by simp [resume, hp]⟩
  | rdInto m => exact ⟨.data [], by simp [resume, hp]⟩
  | _ => rw [hp] at h; cases l <;> cases h

theorem resume_waiter (E : Engine σ) (s : St σ) (t : Tid) (l : LockId) (hc : cls (s.pc t) = .wait l)
    (hu : (s.lock l).locked = false) (hd : (s.lock l).waiters.head? = some t) :
    (resume E s t .ok).isSome = true := by
  have hg : (s.grant t l).isSome = true := by simp [St.grant, hu, hd]
  cases l with
  | send =>
    cases hp : s.pc t with
    | wrLock m | wwLock m | okLock m => simp [resume, hp, hg]
    | _ => rw [hp] at hc; cases hc
  | recv =>
    cases hp : s.pc t with
    | rdLock m => simp [resume, hp, hg]
    | _ => rw [hp] at hc; cases hc

theorem CI.live (E : Engine σ) (h : CIs s) (hk : kOf s.pc t = .wait l) :
    (∃ u, kOf s.pc u = .hold l) ∨
    ∃ v, (s.lock l).locked = false ∧ (s.lock l).waiters.head? = some v ∧ (resume E s v .ok).isSome = true := by
  by_cases hl : (s.lock l).locked = true
  · exact .inl ((h l).held hl)
  · have hmem := ((h l).wait t).1 hk
    cases hws : (s.lock l).waiters with
    | nil => rw [hws] at hmem; cases hmem
    | cons v rest =>
      have hv : kOf s.pc v = .wait l := ((h l).wait v).2 (by rw [hws]; exact List.mem_cons_self)
      have hl' := Bool.eq_false_iff.2 hl
      exact .inr ⟨v, hl', rfl, resume_waiter E s v l hv hl' (by rw [hws]; rfl)⟩

theorem progress_of_CIs (E : Engine σ) (s : St σ) (h : CIs s) (hne : ∃ t, s.pc t ≠ .idle) :
    ∃ t io, (resume E s t io).isSome = true := by
  obtain ⟨t, ht⟩ := hne
  have one : ∀ l, kOf s.pc t = .wait l → ∃ t io, (resume E s t io).isSome = true := by
    intro l hk
    rcases CI.live E h hk with ⟨u, hu⟩ | ⟨v, _, _, hv⟩
    · exact ⟨u, resume_holder E s u l hu⟩
    · exact ⟨v, .ok, hv⟩
  cases hk : kOf s.pc t with
  | idle => exact absurd ((cls_idle _).1 hk) ht
  | holdS => exact ⟨t, resume_holder E s t .send hk⟩
  | holdR => exact ⟨t, resume_holder E s t .recv hk⟩
  | waitS => exact one .send hk
  | waitR => exact one .recv hk

end
end EasyNet.C08

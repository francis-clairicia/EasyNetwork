/-
  C08: the WANT_READ branch and the send lock (flush before waiting for input; full-duplex progress).

  * flush before waiting   `Flushed s t`: if `t` waits for ciphertext in `s` (parked on the receive lock or inside
                     `transport.recv_into`), the outgoing BIO is empty or another task is queued on the send lock.  It holds
                     at the end of every step of `t` (`apiCall_flush`, `resume_flush`) unless the task came from its own
                     completed flush (`wrSend`) or was already queued for the receive lock; and a task that is granted the
                     send lock leaves the outgoing BIO empty (`grant_flushes`).
  * `run_policy`     the variant switch `wrPolicy` is never written: every state reachable from `St.init` runs the current
                     code (`WrPolicy.pendingNoWaiter`, docs/C08-fix-2.patch).
  * `WLs`            the invariant of the current code: a task of the WANT_READ branch that waits for the send lock is the
                     FIRST of its queue (it waits for nobody but the lock's owner) and the outgoing BIO holds bytes to flush.
                     It is created only with an empty queue and a non-empty BIO; the BIO is emptied only by a task that has
                     just acquired the send lock — free lock = empty queue, or grant to the head —, so it stays true until
                     that task itself is granted the lock.  `run_WL`: it holds in every reachable state, for every engine,
                     task count and event list.
  * `attempt_wantRead_direct`   one pass of `_retry_ssl_method` that ends in WANT_READ with nothing to flush (or with another
                     task already queued on the send lock) goes straight to the receive lock: send lock untouched, nothing
                     logged but `acq recv, rcv` / `park recv`.
-/
import EasyNet.Lemmas.Tls08Ctl
namespace EasyNet.C08
open EasyNet

def waitsInput : PC → Bool
  | .rdLock _ => true
  | .rdInto _ => true
  | _ => false

section
variable {σ : Type} {E : Engine σ}

/-- if `t` waits for input in `s`, nothing is left for it to flush: the outgoing BIO is empty, or another task is queued on
    the send lock (and flushes everything when it is granted the lock) -/
def Flushed (s : St σ) (t : Tid) : Prop := waitsInput (s.pc t) = true → s.wbio = [] ∨ s.sendLock.waiters ≠ []

theorem Flushed.of_pc {s : St σ} {t : Tid} (h : waitsInput (s.pc t) = false) : Flushed s t :=
  fun hw => absurd (h.symm.trans hw) nofun

theorem finish_pc (s : St σ) (t : Tid) (m : Meth) (r : Result) : (finish s t m r).pc t = .idle := by
  obtain ⟨s1, e, _⟩ := finish_eq s t m r
  rw [e]; exact upd_same ..

theorem finish_wbio (s : St σ) (t : Tid) (m : Meth) (r : Result) : (finish s t m r).wbio = s.wbio := by
  obtain ⟨s1, e, _, hw⟩ := finish_eq s t m r
  rw [e]; exact hw

theorem finish_flushed (s : St σ) (t : Tid) (m : Meth) (r : Result) : Flushed (finish s t m r) t :=
  .of_pc (congrArg waitsInput (finish_pc ..))

theorem failOs_flushed (s : St σ) (t : Tid) (m : Meth) (b : Bool) : Flushed (failOs s t m b) t := by
  unfold failOs; split <;> exact finish_flushed _ t _ _

theorem rdPart_effect (s : St σ) (t : Tid) (m : Meth) :
    (rdPart s t m).core = s.core ∧ (rdPart s t m).sendLock = s.sendLock ∧ waitsInput ((rdPart s t m).pc t) = true ∧
    (rdPart s t m).acts = s.acts ++ (if s.recvLock.free = true then [.acq t .recv, .rcv t] else [.park t .recv]) := by
  unfold rdPart
  rw [acquire_snd]
  by_cases hf : (s.lock .recv).free = true
  · rw [if_pos hf, if_pos (show s.recvLock.free = true from hf), acquire_free t hf]
    simp only [St.setPc, St.log, St.setLock, St.core, upd_same, List.append_assoc]
    exact ⟨trivial, trivial, rfl, rfl⟩
  · rw [if_neg hf, if_neg (show ¬ s.recvLock.free = true from hf), acquire_busy t (Bool.eq_false_iff.2 hf)]
    simp only [St.setPc, St.log, St.setLock, St.core, upd_same]
    exact ⟨trivial, trivial, rfl, trivial⟩

theorem rdPart_wbio (s : St σ) (t : Tid) (m : Meth) : (rdPart s t m).wbio = s.wbio :=
  congrArg Core.wbio (rdPart_effect s t m).1

/-- all three users of the send lock read the whole outgoing BIO under the lock -/
theorem afterWrLock_wbio (s : St σ) (t : Tid) (m : Meth) : (afterWrLock s t m).wbio = [] := by
  unfold afterWrLock; split
  · rfl
  · rename_i hw; exact (rdPart_wbio ..).trans (Decidable.of_not_not hw)

theorem afterOkLock_wbio (s : St σ) (t : Tid) (m : Meth) : (afterOkLock s t m).wbio = [] := by
  unfold afterOkLock; split
  · rfl
  · rename_i hw; exact (finish_wbio ..).trans (Decidable.of_not_not hw)

theorem sendPart_flushed (s : St σ) (t : Tid) {p : PC} (after : St σ → St σ) (ha : ∀ s1, (after s1).wbio = [])
    (hp : waitsInput p = false) :
    Flushed (if (s.acquire t .send).2 then after (s.acquire t .send).1 else (s.acquire t .send).1.setPc t p) t := by
  split
  · exact fun _ => .inl (ha _)
  · exact .of_pc ((congrArg waitsInput (upd_same ..)).trans hp)

theorem wantsSendLock_of {s : St σ} (hw : s.wbio ≠ []) (hq : s.sendLock.waiters = []) : s.wantsSendLock = true := by
  unfold St.wantsSendLock
  cases s.wrPolicy <;> simp [hw, hq]

theorem wantsSendLock_current (s : St σ) (hpol : s.wrPolicy = .pendingNoWaiter) (hc : s.wantsSendLock = true) :
    s.wbio ≠ [] ∧ s.sendLock.waiters = [] := by
  unfold St.wantsSendLock at hc
  rw [hpol] at hc
  simp only [Bool.and_eq_true, Bool.not_eq_true', List.isEmpty_eq_false_iff, List.isEmpty_iff] at hc
  exact hc

theorem wrPart_flushed (s : St σ) (t : Tid) (m : Meth) : Flushed (wrPart s t m) t := by
  unfold wrPart; split
  · exact sendPart_flushed s t _ (afterWrLock_wbio · t m) rfl
  · -- the send lock is not taken at all: nothing pending, or somebody is already queued
    rename_i hc
    intro _
    rw [rdPart_wbio, (rdPart_effect s t m).2.1]
    exact Decidable.or_iff_not_imp_left.2 fun hw hq => hc (wantsSendLock_of hw hq)

theorem attempt_flushed (s : St σ) (t : Tid) (m : Meth) : Flushed (attempt E s t m) t := by
  unfold attempt; split
  · split
    · exact finish_flushed _ t _ _
    · exact sendPart_flushed _ t _ (afterOkLock_wbio · t m) rfl
  · exact wrPart_flushed _ t m
  · exact sendPart_flushed _ t (afterWwLock · t m) (fun _ => rfl) (p := .wwLock m) rfl
  · exact finish_flushed _ t _ _
  · exact finish_flushed _ t _ _

theorem apiCall_flush (s : St σ) (t : Tid) (a : Api) : Flushed (apiCall E s t a) t := by
  cases a <;> exact attempt_flushed _ t _

theorem resume_flush (s s' : St σ) (t : Tid) (io : IoRes) (hs : resume E s t io = some s') :
    (∃ m, s.pc t = .wrSend m) ∨ (∃ m, s.pc t = .rdLock m) ∨ Flushed s' t := by
  unfold resume at hs
  split at hs
  · cases hs
  · obtain ⟨s1, _, rfl⟩ := Option.map_eq_some_iff.1 hs
    exact .inr (.inr fun _ => .inl (afterWrLock_wbio ..))
  · rename_i m hpc; exact .inl ⟨m, hpc⟩
  · cases hs; exact .inr (.inr (failOs_flushed _ t _ _))
  · rename_i m hpc; exact .inr (.inl ⟨m, hpc⟩)
  · split at hs
    · cases hs; exact .inr (.inr (attempt_flushed _ t _))
    · split at hs
      · cases hs; exact .inr (.inr (finish_flushed _ t _ _))
      · cases hs; exact .inr (.inr (attempt_flushed _ t _))
  · cases hs; exact .inr (.inr (failOs_flushed _ t _ _))
  · obtain ⟨s1, _, rfl⟩ := Option.map_eq_some_iff.1 hs
    exact .inr (.inr fun _ => .inl rfl)
  · cases hs; exact .inr (.inr (attempt_flushed _ t _))
  · cases hs; exact .inr (.inr (failOs_flushed _ t _ _))
  · obtain ⟨s1, _, rfl⟩ := Option.map_eq_some_iff.1 hs
    exact .inr (.inr fun _ => .inl (afterOkLock_wbio ..))
  · cases hs; exact .inr (.inr (finish_flushed _ t _ _))
  · cases hs; exact .inr (.inr (failOs_flushed _ t _ _))
  · cases hs

theorem grant_flushes (s s' : St σ) (t : Tid) (hs : resume E s t .ok = some s') (hc : cls (s.pc t) = .waitS) :
    s'.wbio = [] := by
  cases hp : s.pc t with
  | wrLock m =>
    simp only [resume, hp] at hs
    obtain ⟨s1, _, rfl⟩ := Option.map_eq_some_iff.1 hs
    exact afterWrLock_wbio ..
  | wwLock m =>
    simp only [resume, hp] at hs
    obtain ⟨s1, _, rfl⟩ := Option.map_eq_some_iff.1 hs
    rfl
  | okLock m =>
    simp only [resume, hp] at hs
    obtain ⟨s1, _, rfl⟩ := Option.map_eq_some_iff.1 hs
    exact afterOkLock_wbio ..
  | _ => rw [hp] at hc; cases hc

theorem policy_scheme (x : WrPolicy) : Scheme E (fun s : St σ => s.wrPolicy = x) (fun _ _ s => s.wrPolicy = x) where
  start := fun h _ => h
  wake := fun h _ => h
  handover := fun h _ _ => (wrPolicy_setLock ..).trans h
  take := fun h _ => (wrPolicy_setLock ..).trans h
  queue := fun h _ _ => (wrPolicy_setLock ..).trans h
  give := fun h => (wrPolicy_setLock ..).trans h
  xmit := fun h => h
  stop := fun h _ => h
  core := fun h f _ => f.wrPolicy.trans h
  quiet := fun h => h

theorem run_policy (evs : List Ev) (s s' : St σ) (hr : run E s evs = some s') : s'.wrPolicy = s.wrPolicy :=
  run_scheme (policy_scheme _) evs rfl hr

/-- every task that waits for the send lock in the WANT_READ branch is the first of the lock's queue, and the outgoing
    BIO holds bytes to flush -/
def WLs (s : St σ) : Prop := ∀ u m, s.pc u = .wrLock m → s.sendLock.waiters.head? = some u ∧ s.wbio ≠ []

def NoWr (s : St σ) (t : Tid) : Prop := ∀ u m, u ≠ t → s.pc u ≠ .wrLock m

theorem NoWr_mono {s s' : St σ} (t : Tid) (hpc : s'.pc = s.pc) (h : NoWr s t) : NoWr s' t := by
  intro u m hne hu; rw [hpc] at hu; exact h u m hne hu

/-- `WLs` for every task but `t`, which is running in class `c` (its pc field is stale) — and right after `t` took the
    send lock there is no such task: it would have been ahead of `t` in the queue -/
def WLr (s : St σ) (t : Tid) (c : Cl) : Prop :=
  s.wrPolicy = .pendingNoWaiter ∧
  ∀ u m, u ≠ t → s.pc u = .wrLock m → c ≠ .holdS ∧ s.sendLock.waiters.head? = some u ∧ s.wbio ≠ []

theorem WLr.of_NoWr {s : St σ} {t : Tid} {c : Cl} (hp : s.wrPolicy = .pendingNoWaiter) (h : NoWr s t) : WLr s t c :=
  ⟨hp, fun u m hne hu => absurd hu (h u m hne)⟩

theorem WLr.noWr {s : St σ} {t : Tid} (h : WLr s t .holdS) : NoWr s t := fun u m hne hu => (h.2 u m hne hu).1 rfl

theorem WLr.setPc {s : St σ} {t : Tid} {c : Cl} (h : WLr s t c) {p : PC} (hp : ∀ m, p ≠ .wrLock m) : WLs (s.setPc t p) := by
  intro u m hu
  rcases upd_cases (f := s.pc) hu with ⟨_, e⟩ | ⟨hut, e⟩
  · exact absurd e (hp m)
  · exact (h.2 u m hut e).2

theorem WL.scheme : Scheme E (fun s : St σ => s.wrPolicy = .pendingNoWaiter ∧ WLs s) (fun t c s => WLr s t c) where
  start := fun h hc => ⟨h.1, fun u m _ hu => ⟨hc, h.2 u m hu⟩⟩
  wake := fun h _ => ⟨h.1, fun u m _ hu => ⟨nofun, h.2 u m hu⟩⟩
  handover := fun {s t l} h _ hd => by
    cases l with
    | send =>
      -- the woken head takes the lock: another task in `wrLock` would be the head too
      exact .of_NoWr h.1 fun u m hne hu => hne (Option.some.inj ((h.2 u m hu).1.symm.trans hd))
    | recv => exact ⟨h.1, fun u m _ hu => ⟨nofun, h.2 u m hu⟩⟩
  take := fun {s t l} h hf => by
    cases l with
    | send =>
      -- the lock was free, so its queue was empty
      have hq : s.sendLock.waiters = [] := (Lock.free_iff.1 hf).2
      exact .of_NoWr h.1 fun u m hne hu => nomatch hq ▸ (h.2 u m hne hu).2.1
    | recv => exact ⟨h.1, fun u m hne hu => ⟨nofun, (h.2 u m hne hu).2⟩⟩
  queue := fun {s t l p} h hp hw => by
    cases l with
    | send =>
      refine ⟨h.1, fun u m hu => ?_⟩
      show (s.sendLock.waiters ++ [t]).head? = some u ∧ s.wbio ≠ []
      rcases upd_cases (f := s.pc) hu with ⟨rfl, e⟩ | ⟨hut, e⟩
      · -- `wrLock` is entered only with bytes to flush and an empty queue
        obtain ⟨hb, hq⟩ := wantsSendLock_current s h.1 (hw m e)
        exact ⟨by rw [hq]; rfl, hb⟩
      · obtain ⟨_, h1, h2⟩ := h.2 u m hut e
        exact ⟨by rw [List.head?_append, h1]; rfl, h2⟩
    | recv => exact ⟨h.1, WLr.setPc (s := s.setLock .recv _) h fun m e => by subst e; cases hp⟩
  give := fun {s t l} h => by
    cases l <;> exact ⟨h.1, fun u m hne hu => ⟨nofun, (h.2 u m hne hu).2⟩⟩
  xmit := fun h => .of_NoWr h.1 (NoWr_mono _ rfl h.noWr)
  stop := fun h hS => ⟨h.1, h.setPc fun m e => by subst e; exact hS rfl⟩
  core := fun {s s' t c} h f st => ⟨f.wrPolicy.trans h.1, fun u m hne hu =>
    have ⟨h0, h1, h2⟩ := h.2 u m hne (f.pc ▸ hu)
    ⟨h0, f.sendLock ▸ h1, st.wbio h2⟩⟩
  quiet := fun h => h

theorem run_WL (evs : List Ev) (e : σ) (c : Bool) (s : St σ) (hr : run E (St.init e c) evs = some s) :
    s.wrPolicy = .pendingNoWaiter ∧ WLs s :=
  run_scheme WL.scheme evs ⟨rfl, fun _ _ hu => by cases hu⟩ hr

theorem attempt_wantRead_direct (s : St σ) (t : Tid) (m : Meth) (hpol : s.wrPolicy = .pendingNoWaiter)
    (hr : (callMeth E t m s).2 = .exc .wantRead)
    (hn : (callMeth E t m s).1.wbio = [] ∨ s.sendLock.waiters ≠ []) :
    (attempt E s t m).sendLock = s.sendLock ∧ waitsInput ((attempt E s t m).pc t) = true ∧
    (attempt E s t m).acts = (callMeth E t m s).1.acts ++
      (if s.recvLock.free = true then [.acq t .recv, .rcv t] else [.park t .recv]) := by
  have f := callMeth_frame (E := E) t m s
  unfold attempt; rw [hr]
  unfold wrPart
  rw [if_neg]
  · refine ⟨(rdPart_effect _ t m).2.1.trans f.sendLock, (rdPart_effect _ t m).2.2.1, ?_⟩
    rw [(rdPart_effect _ t m).2.2.2]
    show (callMeth E t m s).1.acts ++ (if (callMeth E t m s).1.recvLock.free = true then _ else _) = _
    rw [f.recvLock]
  · intro hc
    obtain ⟨hb, hq⟩ := wantsSendLock_current _ (f.wrPolicy.trans hpol) hc
    exact hn.elim hb fun hq' => hq' ((congrArg Lock.waiters f.sendLock).symm.trans hq)

/-- pcs of the WANT_READ branch: the task cannot go on without ciphertext input -/
def needsInput : PC → Bool
  | .wrLock _ | .wrSend _ | .rdLock _ | .rdInto _ => true
  | _ => false

theorem needsInput_past_send_lock (s : St σ) (h : WLs s) (hw : s.wbio = []) (t : Tid) (hn : needsInput (s.pc t) = true) :
    (∃ m, s.pc t = .wrSend m) ∨ (∃ m, s.pc t = .rdLock m) ∨ (∃ m, s.pc t = .rdInto m) := by
  cases hp : s.pc t with
  | wrLock m => exact absurd hw (h t m hp).2
  | wrSend m => exact .inl ⟨m, rfl⟩
  | rdLock m => exact .inr (.inl ⟨m, rfl⟩)
  | rdInto m => exact .inr (.inr ⟨m, rfl⟩)
  | _ => rw [hp] at hn; cases hn

theorem recv_side_live (s : St σ) (h : CIs s) (t : Tid) (hwt : waitsInput (s.pc t) = true) :
    ∃ u, (∃ m, s.pc u = .rdInto m) ∨
      (s.recvLock.locked = false ∧ s.recvLock.waiters.head? = some u ∧ (resume E s u .ok).isSome = true) := by
  cases hp : s.pc t with
  | rdInto m => exact ⟨t, .inl ⟨m, hp⟩⟩
  | rdLock m =>
    rcases CI.live (l := .recv) E h (congrArg cls hp) with ⟨u, hu⟩ | ⟨v, hv⟩
    · refine ⟨u, .inl ?_⟩
      cases hq : s.pc u with
      | rdInto m' => exact ⟨m', rfl⟩
      | _ => rw [kOf, hq] at hu; cases hu
    · exact ⟨v, .inr hv⟩
  | _ => rw [hp] at hwt; cases hwt

end
end EasyNet.C08

/-
  C08: the data invariants of the wrapper machine, as instances of the invariant principle of Lemmas/Tls08Core.lean.
    G1   provenance (only BIO bytes reach the transport, the backlog holds only application bytes), write-exactly-once
         (`accepted ++ backlog = written`), the conduit equations (wire ++ pending = everything the engine emitted;
         consumed ++ incoming BIO = everything fed = everything taken from the transport)
    RInv what recv / recv_into returned = what ssl.read produced
    MInv every completed write loop had all bytes written up to its call accepted
-/
import EasyNet.Lemmas.Tls08Step
namespace EasyNet.C08
open EasyNet

theorem tag_org (o : Org) (b : Bytes) : ∀ x ∈ tag o b, x.1 = o := List.forall_mem_map.2 fun _ _ => rfl

theorem untag_append (a b : List TB) : untag (a ++ b) = untag a ++ untag b := by simp [untag]
theorem untag_take (a : List TB) (n : Nat) : untag (a.take n) = (untag a).take n := by simp [untag, List.map_take]
theorem untag_drop (a : List TB) (n : Nat) : untag (a.drop n) = (untag a).drop n := by simp [untag, List.map_drop]
theorem untag_length (a : List TB) : (untag a).length = a.length := by simp [untag]

theorem acceptedBy_nonwrite (call : Call) (r : Resp) (h : call.kind ≠ .write) : acceptedBy call r = [] := by
  cases call <;> simp_all [acceptedBy, Call.kind]

structure G1 {σ : Type} (d : Core σ) : Prop where
  wbioBio : ∀ b ∈ d.wbio, b.1 = Org.bio
  xmitBio : ∀ p ∈ d.xmits, ∀ b ∈ p, b.1 = Org.bio
  dqPlain : ∀ c ∈ d.deque, ∀ b ∈ c, b.1 = Org.plain
  wrPlain : ∀ b ∈ d.written, b.1 = Org.plain
  once : d.accepted ++ untag d.deque.flatten = untag d.written
  outs : d.xmits.flatten ++ d.wbio = d.outAll
  ins : d.consumed ++ d.rbio = d.fedAll
  fedTaken : d.fedAll <+: d.taken
  fedEq : d.rEof = false → d.fedAll = d.taken

theorem G1.init {σ : Type} (e : σ) (c : Bool) : G1 (St.init e c).core :=
  ⟨nofun, nofun, nofun, nofun, rfl, rfl, rfl, List.prefix_refl _, fun _ => rfl⟩

theorem afterWrite_cases (d : List TB) (dq : List (List TB)) (r : Resp) :
    ∃ k, acceptedBy (.write (untag d)) r = (untag d).take k ∧
      (afterWrite d dq r.out = d.drop k :: dq ∨ d.length ≤ k ∧ afterWrite d dq r.out = dq) := by
  cases ho : r.out with
  | ok n =>
    refine ⟨n, by simp only [acceptedBy, ho], ?_⟩
    simp only [afterWrite]
    by_cases hlt : n < d.length
    · rw [if_pos hlt]
      by_cases hn : n = 0
      · subst hn; exact .inl rfl
      · rw [if_neg hn]; exact .inl rfl
    · rw [if_neg hlt]; exact .inr ⟨Nat.le_of_not_lt hlt, rfl⟩
  | _ => exact ⟨0, by simp only [acceptedBy, ho, List.take_zero], .inl rfl⟩

theorem once_write {acc : Bytes} {d : List TB} {dq : List (List TB)} {w : Bytes} (r : Resp)
    (h : acc ++ untag (d :: dq).flatten = w) :
    acc ++ acceptedBy (.write (untag d)) r ++ untag (afterWrite d dq r.out).flatten = w := by
  rw [List.flatten_cons, untag_append] at h
  obtain ⟨k, ha, e | ⟨hk, e⟩⟩ := afterWrite_cases d dq r
  · rw [ha, e, List.flatten_cons, untag_append, untag_drop, List.append_assoc,
      ← List.append_assoc (List.take k (untag d)), List.take_append_drop]
    exact h
  · rw [ha, e, List.take_of_length_le (by rw [untag_length]; exact hk), List.append_assoc]
    exact h

theorem plain_afterWrite {d : List TB} {dq : List (List TB)} (r : Resp)
    (h : ∀ c ∈ d :: dq, ∀ b ∈ c, b.1 = Org.plain) : ∀ c ∈ afterWrite d dq r.out, ∀ b ∈ c, b.1 = Org.plain := by
  obtain ⟨hd, hdq⟩ := List.forall_mem_cons.1 h
  obtain ⟨k, _, e | ⟨_, e⟩⟩ := afterWrite_cases d dq r
  · rw [e]; exact List.forall_mem_cons.2 ⟨fun b hb => hd b (List.mem_of_mem_drop hb), hdq⟩
  · rw [e]; exact hdq

/-- an engine call together with the backlog update that follows it: the BIO equations are carried by the bookkeeping of
    `Core.engStep`, the backlog conditions are the caller's -/
theorem G1.engStep {σ : Type} {E : Engine σ} {c : Core σ} (h : G1 c) (call : Call) {dq : List (List TB)}
    (hp : ∀ x ∈ dq, ∀ b ∈ x, b.1 = Org.plain)
    (ho : c.accepted ++ acceptedBy call (c.resp E call) ++ untag dq.flatten = untag c.written) :
    G1 { c.engStep E call with deque := dq } := by
  refine { h with dqPlain := hp, once := ho, wbioBio := List.forall_mem_append.2 ⟨h.wbioBio, tag_org _ _⟩,
                  outs := ?_, ins := ?_ }
  · show c.xmits.flatten ++ (c.wbio ++ _) = c.outAll ++ _
    rw [← List.append_assoc, h.outs]
  · show c.consumed ++ c.rbio.take _ ++ c.rbio.drop _ = c.fedAll
    rw [List.append_assoc, List.take_append_drop]
    exact h.ins

theorem G1.engStep_nonwrite {σ : Type} {E : Engine σ} {c : Core σ} (h : G1 c) {call : Call} (hk : call.kind ≠ .write) :
    G1 (c.engStep E call) :=
  h.engStep call h.dqPlain (by rw [acceptedBy_nonwrite _ _ hk, List.append_nil]; exact h.once)

theorem G1.closed {σ : Type} (E : Engine σ) : Closed E (G1 (σ := σ)) where
  eng := fun _ _ h hk _ => h.engStep_nonwrite hk
  readOk := fun _ n h _ => { h.engStep_nonwrite (E := E) (call := .read n) nofun with }
  write := fun c d _ h => G1.engStep (c := { c with deque := _ }) h _ (plain_afterWrite _ h.dqPlain)
    (once_write (c.resp E (.write (untag d))) h.once)
  xmit := by
    intro c h
    refine { h with wbioBio := nofun, outs := ?_,
                    xmitBio := List.forall_mem_append.2 ⟨h.xmitBio, List.forall_mem_singleton.2 h.wbioBio⟩ }
    simp only [Core.xmit, List.flatten_append, List.flatten_cons, List.flatten_nil, List.append_nil]
    exact h.outs
  eofs := fun _ h => { h with fedEq := nofun }
  feed := by
    intro c x h he
    refine { h with ins := ?_, fedTaken := ?_, fedEq := fun _ => ?_ }
    · show c.consumed ++ (c.rbio ++ x) = c.fedAll ++ x
      rw [← List.append_assoc, h.ins]
    · show c.fedAll ++ x <+: c.taken ++ x
      rw [h.fedEq he]; exact List.prefix_refl _
    · show c.fedAll ++ x = c.taken ++ x
      rw [h.fedEq he]
  dropFeed := by
    intro c x h
    obtain ⟨r, hr⟩ := h.fedTaken
    exact { h with fedEq := nofun,
                   fedTaken := ⟨r ++ x, by show c.fedAll ++ (r ++ x) = c.taken ++ x; rw [← List.append_assoc, hr]⟩ }
  enqueue := by
    intro c t cs h
    have hcs : ∀ x ∈ cs.map (tag .plain), ∀ b ∈ x, b.1 = Org.plain := List.forall_mem_map.2 fun y _ => tag_org _ y
    refine { h with dqPlain := List.forall_mem_append.2 ⟨h.dqPlain, hcs⟩,
                    wrPlain := List.forall_mem_append.2 ⟨h.wrPlain, List.forall_mem_flatten.2 hcs⟩, once := ?_ }
    show c.accepted ++ untag (c.deque ++ cs.map (tag .plain)).flatten = untag (c.written ++ (cs.map (tag .plain)).flatten)
    rw [List.flatten_append, untag_append, untag_append, ← List.append_assoc, h.once]
  done := fun _ _ h _ => { h with }
  flushed := fun _ _ h => { h with }

theorem G1.once_done {σ : Type} {c : Core σ} (g : G1 c) (hd : c.deque = []) : c.accepted = untag c.written := by
  have := g.once
  rw [hd] at this
  exact (List.append_nil _).symm.trans this

theorem G1.run {σ : Type} {E : Engine σ} {e : σ} {compat : Bool} {evs : List Ev} {s : St σ}
    (h : run E (St.init e compat) evs = some s) : G1 s.core :=
  run_closed (G1.closed E) evs _ s (G1.init e compat) h

def RInv {σ : Type} (c : Core σ) : Prop := c.returned = c.engRead

theorem readBy_nil (call : Call) (r : Resp) (h : call.kind = .read → r.out.isOk = false) : readBy call r = [] := by
  cases call with
  | read n =>
    have := h rfl
    cases ho : r.out <;> simp_all [readBy, SslOut.isOk]
  | _ => simp [readBy]

theorem RInv.closed {σ : Type} (E : Engine σ) : Closed E (RInv (σ := σ)) where
  eng := by
    intro c call h _ hr
    show c.returned = c.engRead ++ readBy call (c.resp E call)
    rw [readBy_nil _ _ hr, List.append_nil]; exact h
  readOk := by
    intro c n h hok
    show c.returned ++ (c.resp E (.read n)).data = c.engRead ++ readBy (.read n) (c.resp E (.read n))
    have : readBy (.read n) (c.resp E (.read n)) = (c.resp E (.read n)).data := by
      cases ho : (c.resp E (.read n)).out <;> simp_all [readBy, SslOut.isOk]
    rw [this, h]
  write := by
    intro c d dq h
    show c.returned = c.engRead ++ readBy (.write (untag d)) (c.resp E (.write (untag d)))
    rw [readBy_nil _ _ (by simp [Call.kind]), List.append_nil]; exact h
  xmit := fun _ h => h
  eofs := fun _ h => h
  feed := fun _ _ h _ => h
  dropFeed := fun _ _ h => h
  enqueue := fun _ _ _ h => h
  done := fun _ _ h _ => h
  flushed := fun _ _ h => h

theorem RInv.run {σ : Type} {E : Engine σ} {e : σ} {compat : Bool} {evs : List Ev} {s : St σ}
    (h : run E (St.init e compat) evs = some s) : RInv s.core :=
  run_closed (RInv.closed E) evs (St.init e compat) s (rfl : ([] : Bytes) = []) h

structure MInv {σ : Type} (c : Core σ) : Prop where
  g : G1 c
  comp : ∀ e ∈ c.completed, e.2.1 ≤ e.2.2
  mark : ∀ t, c.mark t ≤ c.written.length

theorem MInv.init {σ : Type} (e : σ) (c : Bool) : MInv (St.init e c).core :=
  ⟨G1.init e c, nofun, fun _ => Nat.le_refl 0⟩

theorem MInv.closed {σ : Type} (E : Engine σ) : Closed E (MInv (σ := σ)) where
  eng := fun c call h hk hr => { h with g := (G1.closed E).eng c call h.g hk hr }
  readOk := fun c n h hok => { h with g := (G1.closed E).readOk c n h.g hok }
  write := fun c d dq h => { h with g := (G1.closed E).write c d dq h.g }
  xmit := fun c h => { h with g := (G1.closed E).xmit c h.g }
  eofs := fun c h => { h with g := (G1.closed E).eofs c h.g }
  feed := fun c x h he => { h with g := (G1.closed E).feed c x h.g he }
  dropFeed := fun c x h => { h with g := (G1.closed E).dropFeed c x h.g }
  enqueue := by
    intro c t cs h
    refine { h with g := (G1.closed E).enqueue c t cs h.g, mark := fun u => ?_ }
    show upd c.mark t (c.written ++ (cs.map (tag .plain)).flatten).length u ≤ (c.written ++ (cs.map (tag .plain)).flatten).length
    unfold upd
    split
    · exact Nat.le_refl _
    · have := h.mark u
      rw [List.length_append]; omega
  done := by
    intro c t h hdq
    refine { h with g := (G1.closed E).done c t h.g hdq,
                    comp := List.forall_mem_append.2 ⟨h.comp, List.forall_mem_singleton.2 ?_⟩ }
    show c.mark t ≤ c.accepted.length
    rw [h.g.once_done hdq, untag_length]
    exact h.mark t
  flushed := fun c t h => { h with g := (G1.closed E).flushed c t h.g }

end EasyNet.C08

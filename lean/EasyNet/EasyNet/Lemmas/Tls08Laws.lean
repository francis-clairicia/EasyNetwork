/-
  C08: the record-layer laws (`TlsLaws`) an SSL engine is assumed to obey, the invariant that ties an engine obeying them
  to the wrapper's ghost logs, and the refinement chain that gives transparency.

  `pOut` / `pIn` : "the plaintext carried by the complete records of a ciphertext stream" for the direction the engine
  writes / reads (the peer has them swapped).  Cryptography is not modelled: the laws say what OpenSSL is trusted to do.
-/
import EasyNet.Lemmas.Tls08Inv
namespace EasyNet.C08
open EasyNet

structure TlsLaws {σ : Type} (E : Engine σ) (pOut pIn : Bytes → Bytes) where
  good : σ → Prop
  acc : σ → Bytes        -- plaintext accepted by `write` so far
  out : σ → Bytes        -- bytes appended to the outgoing BIO so far
  inp : σ → Bytes        -- bytes taken out of the incoming BIO so far
  ret : σ → Bytes        -- plaintext handed out by `read` so far
  /-- bookkeeping of one call, and `good` is preserved -/
  step : ∀ e call rbio eof, good e →
    good (E.call e call rbio eof).1 ∧
    acc (E.call e call rbio eof).1 = acc e ++ acceptedBy call (E.call e call rbio eof).2 ∧
    out (E.call e call rbio eof).1 = out e ++ (E.call e call rbio eof).2.cout ∧
    inp (E.call e call rbio eof).1 = inp e ++ rbio.take (E.call e call rbio eof).2.cin ∧
    ret (E.call e call rbio eof).1 = ret e ++ readBy call (E.call e call rbio eof).2
  /-- `write p` appends whole records framing exactly `p`: the stream emitted so far carries the accepted plaintext -/
  carried : ∀ e, good e → pOut (out e) = acc e
  /-- `read` hands out, in order, only plaintext of complete records it has consumed -/
  delivered : ∀ e, good e → ret e <+: pIn (inp e)

/-- more ciphertext never changes the plaintext already carried -/
def Mono (p : Bytes → Bytes) : Prop := ∀ a b, p a <+: p (a ++ b)

theorem Mono.prefix {p : Bytes → Bytes} (hm : Mono p) {a b : Bytes} (h : a <+: b) : p a <+: p b := by
  obtain ⟨r, rfl⟩ := h
  exact hm a r

theorem untag_tag (o : Org) (b : Bytes) : untag (tag o b) = b := by
  simp [untag, tag, Function.comp_def]

/-- the engine's own logs agree with the wrapper's ghost logs -/
structure GL {σ : Type} {E : Engine σ} {pOut pIn : Bytes → Bytes} (L : TlsLaws E pOut pIn) (c : Core σ) : Prop where
  good : L.good c.eng
  acc : L.acc c.eng = c.accepted
  out : L.out c.eng = untag c.outAll
  inp : L.inp c.eng = c.consumed
  ret : L.ret c.eng = c.engRead

theorem GL.init {σ : Type} {E : Engine σ} {pOut pIn : Bytes → Bytes} (L : TlsLaws E pOut pIn) (e : σ) (c : Bool)
    (hg : L.good e) (hi : L.acc e = [] ∧ L.out e = [] ∧ L.inp e = [] ∧ L.ret e = []) : GL L (St.init e c).core :=
  ⟨hg, hi.1, by show L.out e = untag []; rw [hi.2.1]; rfl, hi.2.2.1, hi.2.2.2⟩

theorem GL.engStep {σ : Type} {E : Engine σ} {pOut pIn : Bytes → Bytes} {L : TlsLaws E pOut pIn} {c : Core σ}
    (h : GL L c) (call : Call) : GL L (c.engStep E call) := by
  obtain ⟨h1, h2, h3, h4, h5⟩ := L.step c.eng call c.rbio c.rEof h.good
  refine ⟨h1, h2.trans (congrArg (· ++ _) h.acc), h3.trans ?_, h4.trans (congrArg (· ++ _) h.inp),
    h5.trans (congrArg (· ++ _) h.ret)⟩
  show _ = untag (c.outAll ++ tag .bio _)
  rw [h.out, untag_append, untag_tag]
  rfl

theorem GL.closed {σ : Type} {E : Engine σ} {pOut pIn : Bytes → Bytes} (L : TlsLaws E pOut pIn) :
    Closed E (GL L) where
  -- `GL` reads the engine and its four logs only: `{ h with }` is `h` for a core that differs elsewhere
  eng := fun _ call h _ _ => h.engStep call
  readOk := fun _ n h _ => { h.engStep (.read n) with }
  write := fun c d _ h => { GL.engStep (c := c) { h with } (.write (untag d)) with }
  xmit := fun _ h => { h with }
  eofs := fun _ h => { h with }
  feed := fun _ _ h _ => { h with }
  dropFeed := fun _ _ h => { h with }
  enqueue := fun _ _ _ h => { h with }
  done := fun _ _ h _ => { h with }
  flushed := fun _ _ h => { h with }

theorem GL.carried {σ : Type} {E : Engine σ} {pOut pIn : Bytes → Bytes} {L : TlsLaws E pOut pIn} {c : Core σ}
    (h : GL L c) : pOut (untag c.outAll) = c.accepted := by
  rw [← h.out, ← h.acc]; exact L.carried _ h.good

theorem GL.delivered {σ : Type} {E : Engine σ} {pOut pIn : Bytes → Bytes} {L : TlsLaws E pOut pIn} {c : Core σ}
    (h : GL L c) : c.engRead <+: pIn c.consumed := by
  rw [← h.ret, ← h.inp]; exact L.delivered _ h.good

theorem GL.run {σ : Type} {E : Engine σ} {pOut pIn : Bytes → Bytes} (L : TlsLaws E pOut pIn) {e : σ} {compat : Bool}
    {evs : List Ev} {s : St σ} (hg : L.good e) (hi : L.acc e = [] ∧ L.out e = [] ∧ L.inp e = [] ∧ L.ret e = [])
    (h : run E (St.init e compat) evs = some s) : GL L s.core :=
  run_closed (GL.closed L) evs _ s (GL.init L e compat hg hi) h

/-- writer side `a`, reader side `b`; the network delivered a prefix of what `a` handed to its transport -/
theorem chain_prefix {σa σb : Type} {Ea : Engine σa} {Eb : Engine σb} {pAB pBA : Bytes → Bytes}
    (La : TlsLaws Ea pAB pBA) (Lb : TlsLaws Eb pBA pAB) (hm : Mono pAB)
    (a : Core σa) (b : Core σb) (ga : G1 a) (gb : G1 b) (la : GL La a) (lb : GL Lb b) (rb : RInv b)
    (net : b.taken <+: untag a.xmits.flatten) :
    b.returned <+: untag a.written := by
  -- returned = engRead = ret eB ≼ pAB (inp eB) = pAB consumed ≼ pAB fedAll ≼ pAB taken ≼ pAB wire ≼ pAB outAll = acc eA = accepted ≼ written
  have h1 : b.returned <+: pAB b.consumed := rb ▸ lb.delivered
  have h2 : pAB b.consumed <+: pAB b.fedAll := hm.prefix ⟨b.rbio, gb.ins⟩
  have h3 : pAB b.fedAll <+: pAB b.taken := hm.prefix gb.fedTaken
  have h4 : pAB b.taken <+: pAB (untag a.xmits.flatten) := hm.prefix net
  have h5 : pAB (untag a.xmits.flatten) <+: pAB (untag a.outAll) :=
    hm.prefix ⟨untag a.wbio, by rw [← untag_append, ga.outs]⟩
  have h7 : a.accepted <+: untag a.written := ⟨untag a.deque.flatten, ga.once⟩
  exact h1.trans (h2.trans (h3.trans (h4.trans (h5.trans (la.carried ▸ h7)))))

/-- equality at quiescence: nothing left in the backlog, in either BIO, on the wire or inside the reading engine -/
theorem chain_eq {σa σb : Type} {Ea : Engine σa} {Eb : Engine σb} {pAB pBA : Bytes → Bytes}
    (La : TlsLaws Ea pAB pBA) (Lb : TlsLaws Eb pBA pAB)
    (a : Core σa) (b : Core σb) (ga : G1 a) (gb : G1 b) (la : GL La a) (lb : GL Lb b) (rb : RInv b)
    (hdq : a.deque = []) (hw : a.wbio = []) (net : b.taken = untag a.xmits.flatten)
    (hr : b.rbio = []) (he : b.rEof = false) (hbuf : Lb.ret b.eng = pAB (Lb.inp b.eng)) :
    b.returned = untag a.written := by
  have h1 : b.returned = pAB b.consumed := by rw [rb, ← lb.ret, ← lb.inp]; exact hbuf
  have h2 : b.consumed = b.taken := by
    have := gb.ins
    rw [hr, List.append_nil] at this
    rw [this, gb.fedEq he]
  have h3 : untag a.xmits.flatten = untag a.outAll := by
    have := ga.outs
    rw [hw, List.append_nil] at this
    rw [this]
  have h4 : pAB (untag a.outAll) = a.accepted := la.carried
  rw [h1, h2, net, h3, h4, ga.once_done hdq]

/-! ### a concrete engine obeying the laws (non-vacuity): the null cipher with one-byte records -/

structure NullSt where
  acc : Bytes := []
  out : Bytes := []
  inp : Bytes := []
  ret : Bytes := []
  deriving DecidableEq, Repr

/-- `write d` emits `d` (accepting at most `cap ≥ 1` bytes per call); `read n` hands out up to `n` pending bytes, else
    WANT_READ (EOF error at end of stream); `do_handshake` succeeds at once -/
def nullEngine (cap : Nat) : Engine NullSt where
  call := fun e call rbio eof =>
    match call with
    | .handshake => (e, { out := .ok 0 })
    | .write d =>
      ({ e with acc := e.acc ++ d.take (cap + 1), out := e.out ++ d.take (cap + 1) },
       { out := .ok (cap + 1), cout := d.take (cap + 1) })
    | .read n =>
      if rbio = [] ∨ n = 0 then (e, { out := if eof then .eofError else .wantRead })
      else ({ e with inp := e.inp ++ rbio.take n, ret := e.ret ++ rbio.take n },
            { out := .ok (min n rbio.length), data := rbio.take n, cin := n })

def nullLaws (cap : Nat) : TlsLaws (nullEngine cap) id id where
  good := fun e => e.out = e.acc ∧ e.ret = e.inp
  acc := NullSt.acc
  out := NullSt.out
  inp := NullSt.inp
  ret := NullSt.ret
  step := by
    intro e call rbio eof hg
    cases call with
    | handshake => simp [nullEngine, acceptedBy, readBy, hg.1, hg.2]
    | write d => simp [nullEngine, acceptedBy, readBy, hg.1, hg.2]
    | read n =>
      simp only [nullEngine]
      split
      · cases eof <;> simp [acceptedBy, readBy, hg.1, hg.2]
      · simp [acceptedBy, readBy, hg.1, hg.2]
  carried := fun e hg => hg.1
  delivered := fun e hg => by rw [hg.2]; exact List.prefix_refl _

theorem mono_id : Mono id := fun a b => List.prefix_append a b

end EasyNet.C08

/-
  C08: a CLOSED system of two endpoints of the wrapper machine joined by two BOUNDED pipes — the environment of the
  full-duplex deadlock (docs/C08-duplex-deadlock-repro.py; harness: vlib/c08_duplex.py).

  Nothing here is Python code of EasyNetwork: it is the wrapped transport the harness uses (a pipe of `cap` bytes per
  direction; `send_all` copies what fits and suspends while the pipe is full; `recv_into` hands out at most `frag` of the
  bytes that are there and suspends while there are none), written down so that "every task waits and nothing can wake
  them" becomes a decidable statement about a reachable state.  Used by the examples and the negative theorems of
  Props/C08.lean only.
-/
import EasyNet.Model.Tls08
namespace EasyNet.C08
open EasyNet

inductive Side where
  | a | b
  deriving DecidableEq, Repr

/-- one direction: the bytes in the pipe, and what the `transport.send_all` in flight on the sending side still has to copy -/
structure Wire where
  buf : Bytes := []
  rest : Bytes := []
  busy : Bool := false       -- a `send_all` is in flight (it returns once `rest = []`)
  deriving DecidableEq, Repr

structure Pair (σ : Type) where
  a : St σ
  b : St σ
  ab : Wire := {}            -- a → b
  ba : Wire := {}            -- b → a
  cap : Nat                  -- capacity of each pipe
  frag : Nat                 -- largest piece one `recv_into` hands out (≥ 1)

inductive PEv where
  | call (sd : Side) (t : Tid) (api : Api)    -- the application calls an API function in task `t` (idle) of side `sd`
  | grant (sd : Side) (t : Tid)               -- the woken head of a lock queue runs
  | copy (sd : Side)                          -- the `send_all` in flight on side `sd` copies what fits into its pipe
  | sent (sd : Side) (t : Tid)                -- … and returns (everything copied)
  | recv (sd : Side) (t : Tid)                -- `transport.recv_into` of task `t` on side `sd` returns what is there (≤ frag)
  deriving DecidableEq, Repr

def Pair.get {σ : Type} (p : Pair σ) : Side → St σ
  | .a => p.a
  | .b => p.b

def Pair.outWire {σ : Type} (p : Pair σ) : Side → Wire
  | .a => p.ab
  | .b => p.ba

def Pair.inWire {σ : Type} (p : Pair σ) : Side → Wire
  | .a => p.ba
  | .b => p.ab

def Pair.put {σ : Type} (p : Pair σ) (sd : Side) (s : St σ) (out inp : Wire) : Pair σ :=
  match sd with
  | .a => { p with a := s, ab := out, ba := inp }
  | .b => { p with b := s, ba := out, ab := inp }

/-- the step of an endpoint logged a new `xmit`: that payload is now in flight -/
def launch {σ : Type} (s s' : St σ) (w : Wire) : Wire :=
  if s.xmits.length < s'.xmits.length then { w with rest := untag (s'.xmits.getLast?.getD []), busy := true } else w

def isLockWait : PC → Bool
  | .wrLock _ | .wwLock _ | .okLock _ | .rdLock _ => true
  | _ => false

def isSending : PC → Bool
  | .wrSend _ | .wwSend _ | .okSend _ => true
  | _ => false

def isReceiving : PC → Bool
  | .rdInto _ => true
  | _ => false

def Pair.endpoint {σ : Type} (E : Engine σ) (p : Pair σ) (sd : Side) (e : Ev) (out inp : Wire) : Option (Pair σ) :=
  (step E (p.get sd) e).map (fun s' => p.put sd s' (launch (p.get sd) s' out) inp)

def pstep {σ : Type} (E : Engine σ) (p : Pair σ) : PEv → Option (Pair σ)
  | .call sd t api => p.endpoint E sd (.call t api) (p.outWire sd) (p.inWire sd)
  | .grant sd t =>
    if isLockWait ((p.get sd).pc t) then p.endpoint E sd (.resume t .ok) (p.outWire sd) (p.inWire sd) else none
  | .copy sd =>
    if (p.outWire sd).busy = true ∧ 0 < min (p.cap - (p.outWire sd).buf.length) (p.outWire sd).rest.length then
      some (p.put sd (p.get sd)
        { (p.outWire sd) with
            buf := (p.outWire sd).buf ++ (p.outWire sd).rest.take (min (p.cap - (p.outWire sd).buf.length) (p.outWire sd).rest.length),
            rest := (p.outWire sd).rest.drop (min (p.cap - (p.outWire sd).buf.length) (p.outWire sd).rest.length) }
        (p.inWire sd))
    else none
  | .sent sd t =>
    if isSending ((p.get sd).pc t) = true ∧ (p.outWire sd).busy = true ∧ (p.outWire sd).rest = [] then
      p.endpoint E sd (.resume t .ok) { (p.outWire sd) with busy := false } (p.inWire sd)
    else none
  | .recv sd t =>
    if isReceiving ((p.get sd).pc t) = true ∧ (p.inWire sd).buf ≠ [] then
      p.endpoint E sd (.resume t (.data ((p.inWire sd).buf.take p.frag))) (p.outWire sd)
        { (p.inWire sd) with buf := (p.inWire sd).buf.drop p.frag }
    else none

def prun {σ : Type} (E : Engine σ) : Pair σ → List PEv → Option (Pair σ)
  | p, [] => some p
  | p, e :: es => match pstep E p e with
    | some p' => prun E p' es
    | none => none

/-- every event of the environment and of the locks (everything but a new API call) for the tasks `ts` of both sides -/
def envEvents (ts : List Tid) : List PEv :=
  [.copy .a, .copy .b] ++ ts.flatMap (fun t => [.grant .a t, .sent .a t, .recv .a t, .grant .b t, .sent .b t, .recv .b t])

/-- **deadlock**: none of the tasks `ts` is idle on either side (each is inside an API call), and no lock hand-over, no
    copy into a pipe, no completion of a `send_all` or `recv_into` is possible -/
def Pair.deadlocked {σ : Type} (E : Engine σ) (p : Pair σ) (ts : List Tid) : Bool :=
  ts.all (fun t => p.a.pc t != .idle && p.b.pc t != .idle) && (envEvents ts).all (fun e => (pstep E p e).isNone)

/-- two fresh endpoints with the given version of the WANT_READ branch -/
def Pair.init {σ : Type} (e : σ) (pol : WrPolicy) (cap frag : Nat) : Pair σ :=
  { a := { (St.init e true) with wrPolicy := pol }, b := { (St.init e true) with wrPolicy := pol }, cap := cap, frag := frag }

/-- events of tasks that are idle are not enabled: a deadlock over the tasks in use is a deadlock of the whole system -/
theorem pstep_idle {σ : Type} (E : Engine σ) (p : Pair σ) (sd : Side) (t : Tid) (h : (p.get sd).pc t = .idle) :
    pstep E p (.grant sd t) = none ∧ pstep E p (.sent sd t) = none ∧ pstep E p (.recv sd t) = none := by
  simp [pstep, h, isLockWait, isSending, isReceiving]

end EasyNet.C08

/-
  C08: one preservation principle for the wrapper machine (Model/Tls08.lean).

  A step is the run of one task `t` from one await to the next.  While `t` runs, its pc field is stale; what it does is a
  sequence of a few moves: take / queue for / give back a lock, hand the outgoing BIO to the transport, update the core
  (`CoreStep`), and finally park at a new pc.  `Scheme E I J` says that `I` (between steps) and `J t c` ("`t` is running
  and counts as being in class `c`") are carried along by every such move; `run_scheme` then makes `I` an invariant of
  `run`.  The traversal of `step` is done once, here.  Instances: every `Closed` predicate on the core (`run_closed`), the
  lock invariant (Lemmas/Tls08Ctl.lean), the send-lock invariant of the WANT_READ branch (Lemmas/Tls08Duplex.lean).
-/
import EasyNet.Lemmas.Tls08Core
namespace EasyNet.C08
open EasyNet

/-- what a task is doing with the two transport locks; `cls` reads it off the program counter -/
inductive Cl where
  | idle | holdS | waitS | holdR | waitR
  deriving DecidableEq, Repr

def cls : PC → Cl
  | .idle => .idle
  | .wrLock _ => .waitS | .wwLock _ => .waitS | .okLock _ => .waitS
  | .wrSend _ => .holdS | .wwSend _ => .holdS | .okSend _ => .holdS
  | .rdLock _ => .waitR
  | .rdInto _ => .holdR

def Cl.hold : LockId → Cl
  | .send => .holdS
  | .recv => .holdR

def Cl.wait : LockId → Cl
  | .send => .waitS
  | .recv => .waitR

/-- `s'` has the control part of `s` -/
structure Frame {σ : Type} (s s' : St σ) : Prop where
  pc : s'.pc = s.pc
  sendLock : s'.sendLock = s.sendLock
  recvLock : s'.recvLock = s.recvLock
  wrPolicy : s'.wrPolicy = s.wrPolicy

theorem Frame.trans {σ : Type} {a b c : St σ} (f : Frame a b) (g : Frame b c) : Frame a c :=
  ⟨g.pc.trans f.pc, g.sendLock.trans f.sendLock, g.recvLock.trans f.recvLock, g.wrPolicy.trans f.wrPolicy⟩

theorem Frame.lock {σ : Type} {s s' : St σ} (f : Frame s s') (l : LockId) : s'.lock l = s.lock l := by
  cases l
  · exact f.sendLock
  · exact f.recvLock

structure Scheme {σ : Type} (E : Engine σ) (I : St σ → Prop) (J : Tid → Cl → St σ → Prop) : Prop where
  /-- `t` starts to run: an API call, or the completion of `recv_into` -/
  start : ∀ {s t}, I s → cls (s.pc t) ≠ .holdS → J t (cls (s.pc t)) s
  /-- `send_all` completed: the send lock is given back at once, so `J t .holdS` only ever speaks of a lock just taken -/
  wake : ∀ {s t}, I s → cls (s.pc t) = .holdS → J t .idle (s.setLock .send { (s.lock .send) with locked := false })
  handover : ∀ {s t l}, I s → (s.lock l).locked = false → (s.lock l).waiters.head? = some t →
    J t (.hold l) (s.setLock l { locked := true, waiters := (s.lock l).waiters.tail })
  take : ∀ {s t l}, J t .idle s → (s.lock l).free = true → J t (.hold l) (s.setLock l { locked := true, waiters := [] })
  /-- the only pc of class `waitS` that is entered on a condition is `wrLock` -/
  queue : ∀ {s t l p}, J t .idle s → cls p = .wait l →
    (∀ m, p = .wrLock m → s.wantsSendLock = true) →
    I ((s.setLock l { (s.lock l) with waiters := (s.lock l).waiters ++ [t] }).setPc t p)
  give : ∀ {s t l}, J t (.hold l) s → J t .idle (s.setLock l { (s.lock l) with locked := false })
  xmit : ∀ {s t}, J t .holdS s → J t .holdS { s with wbio := [], xmits := s.xmits ++ [s.wbio] }
  stop : ∀ {s t p}, J t (cls p) s → cls p ≠ .waitS → I (s.setPc t p)
  core : ∀ {s s' t c}, J t c s → Frame s s' → CoreStep E s.core s'.core → J t c s'
  quiet : ∀ {s a}, I s → I (s.log a)

section
variable {σ : Type} {E : Engine σ} {I : St σ → Prop} {J : Tid → Cl → St σ → Prop} {s : St σ} {t : Tid} {m : Meth}

theorem Scheme.log (H : Scheme E I J) {c : Cl} (h : J t c s) (a : Act) : J t c (s.log a) :=
  H.core h ⟨rfl, rfl, rfl, rfl⟩ (.refl _)

theorem Scheme.startAt (H : Scheme E I J) {c : Cl} (h : I s) (hc : cls (s.pc t) = c) (hS : c ≠ .holdS) : J t c s := by
  subst hc; exact H.start h hS

/-! the lock operations of the model are the moves above followed by an entry in the action log -/

theorem Scheme.acquired (H : Scheme E I J) (l : LockId) (p : PC) (after : St σ → St σ) (h : J t .idle s)
    (hp : cls p = .wait l) (hw : ∀ m, p = .wrLock m → s.wantsSendLock = true)
    (hafter : ∀ s1, J t (.hold l) s1 → I (after s1)) :
    I (if (s.acquire t l).2 then after (s.acquire t l).1 else (s.acquire t l).1.setPc t p) := by
  rw [acquire_snd]
  split
  · rename_i hf
    rw [acquire_free t hf]
    exact hafter _ (H.log (H.take h hf) _)
  · rename_i hf
    rw [acquire_busy t (Bool.eq_false_iff.2 hf)]
    exact H.quiet (a := .park t l) (H.queue h hp hw)

theorem Scheme.rel (H : Scheme E I J) {l : LockId} (h : J t (.hold l) s) : J t .idle (s.release t l) :=
  H.log (H.give h) _

theorem Scheme.wakeS (H : Scheme E I J) (h : I s) (hc : cls (s.pc t) = .holdS) : J t .idle (s.release t .send) :=
  H.log (H.wake h hc) _

theorem Scheme.granted (H : Scheme E I J) {l : LockId} {f : St σ → St σ} {s' : St σ} (h : I s)
    (hf : ∀ s1, J t (.hold l) s1 → I (f s1)) (hs : (s.grant t l).map f = some s') : I s' := by
  obtain ⟨s1, hg, rfl⟩ := Option.map_eq_some_iff.1 hs
  unfold St.grant at hg
  split at hg
  · rename_i hc
    cases hg
    exact hf _ (H.log (H.handover h hc.1 hc.2) _)
  · cases hg

/-- the `except` clauses turn an SSL error into a return value only for `read`, and then into "no bytes" -/
theorem excResult_data {cp : Bool} {o : SslOut} (b : Bytes) (h : excResult cp m o = .data b) : b = [] := by
  unfold excResult at h
  split at h
  · cases h; rfl
  · split at h <;> cases h; rfl
  all_goals cases h

theorem finish_core {r : Result} (hr : ∀ b, r = .data b → b = []) : (finish s t m r).core = s.core := by
  unfold finish
  split <;> simp only [core_setPc, core_log]
  rename_i b
  cases hr b rfl
  simp only [St.log, St.core, List.append_nil]

theorem finish_eq (s : St σ) (t : Tid) (m : Meth) (r : Result) :
    ∃ s1, finish s t m r = s1.setPc t .idle ∧ Frame s s1 ∧ s1.wbio = s.wbio := by
  unfold finish; split <;> exact ⟨_, rfl, ⟨rfl, rfl, rfl, rfl⟩, rfl⟩

theorem finish_S (H : Scheme E I J) {s0 : St σ} {r : Result} (h : J t .idle s0) (f : Frame s0 s)
    (hc : CoreStep E s0.core (finish s t m r).core) : I (finish s t m r) := by
  obtain ⟨s1, e, f1, _⟩ := finish_eq s t m r
  rw [e] at hc ⊢
  exact H.stop (p := .idle) (H.core h (f.trans f1) hc) nofun

theorem finish_S' (H : Scheme E I J) {r : Result} (h : J t .idle s) (hr : ∀ b, r = .data b → b = []) :
    I (finish s t m r) :=
  finish_S H h ⟨rfl, rfl, rfl, rfl⟩ (by rw [finish_core hr]; exact .refl _)

theorem eofs_S (H : Scheme E I J) {c : Cl} (h : J t c s) : J t c ({ s with rEof := true, wEof := true }.log (.bothEof t)) :=
  H.core h ⟨rfl, rfl, rfl, rfl⟩ (.eofs _)

theorem failSsl_S (H : Scheme E I J) (o : SslOut) (h : J t .idle s) : I (failSsl s t m o) :=
  finish_S' H (eofs_S H h) excResult_data

theorem failOs_S (H : Scheme E I J) (b : Bool) (h : J t .idle s) : I (failOs s t m b) := by
  unfold failOs
  split
  · exact finish_S' H (eofs_S H h) nofun
  · exact finish_S' H h nofun

theorem rdPart_S (H : Scheme E I J) (h : J t .idle s) : I (rdPart s t m) :=
  H.acquired .recv (.rdLock m) (fun s1 => (s1.log (.rcv t)).setPc t (.rdInto m)) h rfl nofun
    fun _ h1 => H.stop (p := .rdInto m) (H.log h1 _) nofun

theorem xmit_S (H : Scheme E I J) (p : PC) (hp : cls p = .holdS) (h : J t .holdS s) :
    I (({ s with wbio := [], xmits := s.xmits ++ [s.wbio] }.log (.xmit t s.wbio)).setPc t p) :=
  H.stop (hp ▸ H.log (H.xmit h) _) (by rw [hp]; nofun)

theorem afterWrLock_S (H : Scheme E I J) (h : J t .holdS s) : I (afterWrLock s t m) := by
  unfold afterWrLock
  split
  · exact xmit_S H _ rfl h
  · exact rdPart_S H (H.rel (l := .send) h)

theorem afterWwLock_S (H : Scheme E I J) (h : J t .holdS s) : I (afterWwLock s t m) :=
  xmit_S H _ rfl h

theorem doneResult_data (b : Bytes) (h : doneResult m = .data b) : b = [] := by
  cases m <;> cases h

theorem afterOkLock_S (H : Scheme E I J) (h : J t .holdS s) : I (afterOkLock s t m) := by
  unfold afterOkLock
  split
  · exact xmit_S H _ rfl h
  · exact finish_S' H (H.rel (l := .send) h) doneResult_data

theorem wrPart_S (H : Scheme E I J) (h : J t .idle s) : I (wrPart s t m) := by
  unfold wrPart
  split
  · rename_i hw
    exact H.acquired .send (.wrLock m) (afterWrLock · t m) h rfl (fun _ _ => hw) fun _ => afterWrLock_S H
  · exact rdPart_S H h

theorem wwPart_S (H : Scheme E I J) (h : J t .idle s) : I (wwPart s t m) :=
  H.acquired .send (.wwLock m) (afterWwLock · t m) h rfl nofun fun _ => afterWwLock_S H

theorem okPart_S (H : Scheme E I J) (h : J t .idle s) : I (okPart s t m) :=
  H.acquired .send (.okLock m) (afterOkLock · t m) h rfl nofun fun _ => afterOkLock_S H

theorem engine_frame (s : St σ) (t : Tid) (c : Call) : Frame s (s.engine E t c).1 := ⟨rfl, rfl, rfl, rfl⟩

theorem writeLoop_frame (t : Tid) (dq : List (List TB)) (s : St σ) : Frame s (writeLoop E t dq s).1 := by
  fun_induction writeLoop E t dq s with
  | case1 | case2 | case5 => exact ⟨rfl, rfl, rfl, rfl⟩
  | case3 _ _ _ _ _ _ _ ih | case4 _ _ _ _ _ _ ih => exact (engine_frame ..).trans ih

theorem CoreStep.write_of {d : List TB} {dq dq' : List (List TB)} {o : SslOut}
    (ho : (s.engine E t (.write (untag d))).2.out = o) (e : afterWrite d dq o = dq') :
    CoreStep E { s.core with deque := d :: dq } { (s.engine E t (.write (untag d))).1.core with deque := dq' } := by
  subst ho e; exact .write s.core d dq

theorem writeLoop_core (t : Tid) (dq : List (List TB)) (s : St σ) :
    CoreStep E { s.core with deque := dq } (writeLoop E t dq s).1.core ∧
    (∀ r, (writeLoop E t dq s).2 = .ok r → (writeLoop E t dq s).1.deque = []) := by
  fun_induction writeLoop E t dq s with
  | case1 s => exact ⟨.refl _, fun _ _ => rfl⟩
  | case2 d dq s hout hlt => exact ⟨.write_of hout (by simp [afterWrite, hlt]), nofun⟩
  | case3 d dq s n hout hlt hn ih => exact ⟨.trans (.write_of hout (by simp [afterWrite, hlt, hn])) ih.1, ih.2⟩
  | case4 d dq s n hout hge ih => exact ⟨.trans (.write_of hout (by simp [afterWrite, hge])) ih.1, ih.2⟩
  | case5 d dq s hout =>
    refine ⟨.write_of rfl ?_, nofun⟩
    cases ho : (s.engine E t (.write (untag d))).2.out with
    | ok n => exact absurd ho (hout n)
    | _ => rfl

theorem callMeth_frame (t : Tid) (m : Meth) (s : St σ) : Frame s (callMeth E t m s).1 := by
  unfold callMeth
  split
  · split <;> exact ⟨rfl, rfl, rfl, rfl⟩
  · split <;> exact ⟨rfl, rfl, rfl, rfl⟩
  · exact writeLoop_frame t s.deque s

theorem noteDone_frame (s : St σ) (t : Tid) (m : Meth) : Frame s (noteDone s t m) := by
  cases m <;> exact ⟨rfl, rfl, rfl, rfl⟩

/-- what the method call does to the core, together with what follows it at once when it succeeds: the return of the
    bytes read, or the note that the write loop ran to its end -/
theorem callMeth_core (s : St σ) (t : Tid) (m : Meth) :
    (∀ r, (callMeth E t m s).2 = .ok r →
      if m.isRead then CoreStep E s.core (finish (callMeth E t m s).1 t m (okResult m r)).core
      else CoreStep E s.core (noteDone (callMeth E t m s).1 t m).core) ∧
    ((∀ r, (callMeth E t m s).2 ≠ .ok r) → CoreStep E s.core (callMeth E t m s).1.core) := by
  cases m with
  | handshake =>
    have : (callMeth E t .handshake s).1 = (s.engine E t .handshake).1 := by simp only [callMeth]; split <;> rfl
    rw [this]
    exact ⟨fun _ _ => .eng _ _ nofun nofun, fun _ => .eng _ _ nofun nofun⟩
  | read n =>
    have e : callMeth E t (.read n) s = ((s.engine E t (.read n)).1,
        if (s.engine E t (.read n)).2.out.isOk then .ok (s.engine E t (.read n)).2.data
        else .exc (s.engine E t (.read n)).2.out) := by
      simp only [callMeth]; cases (s.engine E t (.read n)).2.out <;> rfl
    rw [e]
    by_cases hok : (s.engine E t (.read n)).2.out.isOk = true
    · rw [if_pos hok]
      exact ⟨fun r hr => by cases hr; exact .readOk _ n hok, fun hn => absurd rfl (hn _)⟩
    · rw [if_neg hok]
      exact ⟨nofun, fun _ => .eng _ _ nofun fun _ => Bool.eq_false_iff.2 hok⟩
  | writeAll =>
    obtain ⟨h1, h2⟩ := writeLoop_core (E := E) t s.deque s
    exact ⟨fun r hr => h1.trans (.done _ t (h2 r hr)), fun _ => h1⟩

theorem attempt_S (H : Scheme E I J) (h : J t .idle s) : I (attempt E s t m) := by
  have f := callMeth_frame (E := E) t m s
  obtain ⟨c1, c2⟩ := callMeth_core (E := E) s t m
  have h1 : (∀ r, (callMeth E t m s).2 ≠ .ok r) → J t .idle (callMeth E t m s).1 := fun hn => H.core h f (c2 hn)
  unfold attempt
  split
  · rename_i r hr
    have c := c1 r hr
    split
    · rename_i hm
      rw [if_pos hm] at c
      exact finish_S H h f c
    · rename_i hm
      rw [if_neg hm] at c
      exact okPart_S H (H.core h (f.trans (noteDone_frame ..)) c)
  · rename_i hr
    exact wrPart_S H (H.core (h1 (by rw [hr]; nofun)) ⟨rfl, rfl, rfl, rfl⟩ (.flushed _ t))
  · rename_i hr
    exact wwPart_S H (h1 (by rw [hr]; nofun))
  · rename_i hr
    exact failSsl_S H _ (h1 (by rw [hr]; nofun))
  · rename_i hr
    exact finish_S' H (h1 (by rw [hr]; nofun)) nofun

theorem apiCall_S (H : Scheme E I J) (a : Api) (h : J t .idle s) : I (apiCall E s t a) := by
  cases a with
  | handshake | recv | recvInto => exact attempt_S H h
  | sendAll d =>
    have := CoreStep.enqueue (E := E) s.core t [d]
    simp only [List.map_cons, List.map_nil, List.flatten_cons, List.flatten_nil, List.append_nil] at this
    exact attempt_S H (H.core h ⟨rfl, rfl, rfl, rfl⟩ this)
  | sendIter ds => exact attempt_S H (H.core h ⟨rfl, rfl, rfl, rfl⟩ (.enqueue s.core t ds))

theorem resume_S (H : Scheme E I J) {s' : St σ} {io : IoRes} (h : I s) (hs : resume E s t io = some s') : I s' := by
  unfold resume at hs
  split at hs
  · cases hs
  · exact H.granted h (fun _ => afterWrLock_S H) hs
  · rename_i hpc
    cases hs; exact rdPart_S H (H.wakeS h (congrArg cls hpc))
  · rename_i hpc
    cases hs; exact failOs_S H _ (H.wakeS h (congrArg cls hpc))
  · exact H.granted h (fun _ h1 => H.stop (p := .rdInto _) (H.log h1 _) nofun) hs
  · rename_i hpc
    have hv : J t .holdR s := H.startAt h (congrArg cls hpc) nofun
    split at hs
    · cases hs
      refine attempt_S H (H.rel (l := .recv) (H.log ?_ _))
      exact H.core hv ⟨rfl, rfl, rfl, rfl⟩ (.eofs _)
    · split at hs
      · cases hs
        refine finish_S' H (H.log ?_ _) nofun
        exact H.core (H.rel (l := .recv) hv) ⟨rfl, rfl, rfl, rfl⟩ (.dropFeed _ _)
      · rename_i hne
        cases hs
        refine attempt_S H (H.rel (l := .recv) (H.log ?_ _))
        exact H.core hv ⟨rfl, rfl, rfl, rfl⟩ (.feed _ _ (Bool.eq_false_iff.2 hne))
  · rename_i hpc
    cases hs; exact failOs_S H _ (H.rel (l := .recv) (H.startAt h (congrArg cls hpc) nofun))
  · exact H.granted h (fun _ => afterWwLock_S H) hs
  · rename_i hpc
    cases hs; exact attempt_S H (H.wakeS h (congrArg cls hpc))
  · rename_i hpc
    cases hs; exact failOs_S H _ (H.wakeS h (congrArg cls hpc))
  · exact H.granted h (fun _ => afterOkLock_S H) hs
  · rename_i hpc
    cases hs; exact finish_S' H (H.wakeS h (congrArg cls hpc)) doneResult_data
  · rename_i hpc
    cases hs; exact failOs_S H _ (H.wakeS h (congrArg cls hpc))
  · cases hs

theorem step_S (H : Scheme E I J) {s' : St σ} {e : Ev} (h : I s) (hs : step E s e = some s') : I s' := by
  cases e with
  | call t a =>
    simp only [step] at hs
    split at hs
    · rename_i hpc
      cases hs
      exact apiCall_S H a (H.startAt h (congrArg cls hpc) nofun)
    · cases hs
  | resume t io => exact resume_S H h hs

theorem run_scheme (H : Scheme E I J) (evs : List Ev) {s' : St σ} (h : I s) (hr : run E s evs = some s') : I s' := by
  induction evs generalizing s with
  | nil => cases hr; exact h
  | cons e es ih =>
    simp only [run] at hr
    split at hr
    · rename_i s1 hs1
      exact ih (step_S H h hs1) hr
    · cases hr

theorem Closed.scheme {P : Core σ → Prop} (hc : Closed E P) : Scheme E (fun s => P s.core) (fun _ _ s => P s.core) where
  start := fun h _ => h
  wake := fun h _ => by rwa [core_setLock]
  handover := fun h _ _ => by rwa [core_setLock]
  take := fun h _ => by rwa [core_setLock]
  queue := fun h _ _ => by rwa [core_setPc, core_setLock]
  give := fun h => by rwa [core_setLock]
  xmit := fun h => hc.xmit _ h
  stop := fun h _ => h
  core := fun h _ st => hc.step st h
  quiet := fun h => h

theorem run_closed {P : Core σ → Prop} (hc : Closed E P) (evs : List Ev) (s s' : St σ) (h : P s.core)
    (hr : run E s evs = some s') : P s'.core :=
  run_scheme hc.scheme evs h hr

end
end EasyNet.C08

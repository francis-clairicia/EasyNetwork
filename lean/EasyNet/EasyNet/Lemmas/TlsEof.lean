/-
  C09 — the law about what OpenSSL may answer to `read` (`lawClean`), and the lemmas that hold for any table.  The centre is
  one induction over the retry loop, `retry_eff`: the loop reads a prefix of the script, counts what that prefix delivers,
  leaves the closing flags alone, and its result stems from one of the answers read (`Reads`); that a lawful script stays
  lawful and yields a lawful result (`Reads.clean`) follows without looking at the loop again.

  The SSL object and the wrapped transport are the *script* of Model/TlsEof.lean.  The laws (`TlsEofLaws`) constrain scripts:

    lawClean need fed script     (`LawClean`)  a *clean* answer of `read` — it returns `b""` or raises (a subclass of)
                                 `SSLZeroReturnError` — is given only when at least `need` bytes have been written into the read
                                 BIO, `need` = the stream offset at which the peer's close_notify record ends; and the wrapped
                                 transport raises no SSL exception of its own.
    Ragged ph script             (Lemmas/TlsEofGen.lean)  what a law-abiding engine answers to `read` once the wrapped transport
                                 has reported EOF and no complete close_notify was fed: buffered plaintext, WANT_READ as long
                                 as `read_bio.write_eof()` has not been called (phase `open_`; answered by the transport with
                                 EOF again), afterwards the EOF error (`SSLEOFError`, or `SSLError` with the
                                 UNEXPECTED_EOF_WHILE_READING reason) — never WANT_READ.
    UnwrapLaw                    a hypothesis of C09_close_sends_notify (`0 < out` with `alert = true` on the first answer,
                                 which is an `UnwrapAns` or an `UnwrapFail` of Lemmas/TlsEofClose.lean): the first `unwrap()`
                                 appends the alert record to the write BIO.
-/
import EasyNet.Model.TlsEof
namespace EasyNet.TlsEof
variable {ε : Type}

/-- a clean answer of `read` -/
def cleanAns (T : Tables ε) : SslAns ε → Bool
  | .ret 0 => true
  | .ret _ => false
  | .raise e _ => T.sub e T.zeroReturn

/-- `LawClean`: see the header.  `fed` = bytes written into the read BIO before the script starts. -/
def lawClean (T : Tables ε) (need : Nat) : Nat → List (Resp ε) → Bool
  | _, [] => true
  | fed, .tr (.n k) :: rest => lawClean T need (fed + (k + 1)) rest
  | fed, .ssl a _ _ :: rest => (!cleanAns T a || decide (need ≤ fed)) && lawClean T need fed rest
  | fed, .tr (.raise e) :: rest => !T.sub e T.sslError && lawClean T need fed rest
  | fed, .tr _ :: rest => lawClean T need fed rest

/-- bytes the wrapped transport delivers in the whole script -/
def totalFed : List (Resp ε) → Nat
  | [] => 0
  | .tr (.n k) :: rest => (k + 1) + totalFed rest
  | _ :: rest => totalFed rest

theorem lawClean_mono_need (T : Tables ε) (need : Nat) : ∀ (script : List (Resp ε)) (fed fed' : Nat), fed ≤ fed' →
    lawClean T need fed script = true → lawClean T need fed' script = true := by
  intro script
  induction script with
  | nil => intros; rfl
  | cons r rest ih =>
    intro fed fed' hle h
    cases r with
    | ssl a out alert =>
      simp only [lawClean, Bool.and_eq_true, Bool.or_eq_true, decide_eq_true_eq] at h ⊢
      exact ⟨h.1.imp_right (Nat.le_trans · hle), ih fed fed' hle h.2⟩
    | tr a =>
      cases a with
      | n k => exact ih _ _ (Nat.add_le_add_right hle _) h
      | raise e =>
        simp only [lawClean, Bool.and_eq_true] at h ⊢
        exact ⟨h.1, ih fed fed' hle h.2⟩
      | ok | eof | cancel | timeout => exact ih fed fed' hle h

theorem totalFed_append (a b : List (Resp ε)) : totalFed (a ++ b) = totalFed a + totalFed b := by
  induction a with
  | nil => simp [totalFed]
  | cons r a ih =>
    rcases r with _ | (_ | _ | _ | _ | _ | _) <;> simp only [List.cons_append, totalFed, ih, Nat.add_assoc]

theorem lawClean_append (T : Tables ε) (need : Nat) : ∀ (a : List (Resp ε)) (fed : Nat) (b : List (Resp ε)),
    lawClean T need fed (a ++ b) = (lawClean T need fed a && lawClean T need (fed + totalFed a) b) := by
  intro a
  induction a with
  | nil => intro fed b; simp [lawClean, totalFed]
  | cons r a ih =>
    intro fed b
    rcases r with _ | (_ | _ | _ | _ | _ | _) <;>
      simp only [List.cons_append, lawClean, totalFed, ih, Bool.and_assoc, Nat.add_assoc]

theorem lawClean_ssl {T : Tables ε} {need fed : Nat} {a : SslAns ε} {out : Nat} {alert : Bool}
    (h : lawClean T need fed [.ssl a out alert] = true) (hc : cleanAns T a = true) : need ≤ fed := by
  simpa [lawClean, hc] using h

theorem lawClean_tr {T : Tables ε} {need fed : Nat} {e : ε} (h : lawClean T need fed [.tr (.raise e)] = true) :
    T.sub e T.sslError = false := by
  simpa [lawClean] using h

section
variable {α : Type} {P : α → St → List (Resp ε) → List Call → Prop}

/-- `r.Sat P`: if the run got to an end, `P` holds of what it returned.  Specifications are stated in this form so that a
    proof follows the branches of the code; applied to an equation `… = some (…)` a specification gives the fact. -/
def Run.Sat (r : Run ε α) (P : α → St → List (Resp ε) → List Call → Prop) : Prop :=
  ∀ ⦃a s rest calls⦄, r = some (a, s, rest, calls) → P a s rest calls

theorem Run.Sat.none : Run.Sat (none : Run ε α) P :=
  fun _ _ _ _ h => nomatch h

theorem Run.Sat.some {a : α} {s : St} {rest : List (Resp ε)} {calls : List Call} (h : P a s rest calls) :
    Run.Sat (some (a, s, rest, calls)) P :=
  fun _ _ _ _ e => by cases e; exact h

end

/-- the fields the retry loop must not touch -/
def St.ctl (s : St) : Bool × Bool × Bool := (s.closing, s.closedEv, s.innerClosing)

@[simp] theorem addOut_fed (s : St) (o : Nat) (a : Bool) : (addOut s o a).fed = s.fed := rfl
@[simp] theorem addOut_rEof (s : St) (o : Nat) (a : Bool) : (addOut s o a).rEof = s.rEof := rfl
@[simp] theorem markBoth_fed (s : St) : (markBoth s).fed = s.fed := rfl
@[simp] theorem markBoth_rEof (s : St) : (markBoth s).rEof = true := rfl
@[simp] theorem addOut_ctl (s : St) (o : Nat) (a : Bool) : (addOut s o a).ctl = s.ctl := rfl
@[simp] theorem markBoth_ctl (s : St) : (markBoth s).ctl = s.ctl := rfl

/-- the result with which the retry loop ends when it ends on this answer -/
def Resp.rr : Resp ε → Option (RR ε)
  | .ssl (.ret n) _ _ => some (.ret n)
  | .ssl (.raise e p) _ _ => some (.exn (.cls e p))
  | .tr (.raise e) => some (.exn (.cls e false))
  | .tr .cancel => some (.exn .cancel)
  | .tr .timeout => some (.exn .scopeTimeout)
  | .tr _ => none

/-- `Reads s script o s' rest`: from `s` the code read the answers in front of `rest` off `script` and ended in `s'`; the
    result `o`, if there is one, is what one of them amounts to -/
def Reads (s : St) (script : List (Resp ε)) (o : Option (RR ε)) (s' : St) (rest : List (Resp ε)) : Prop :=
  ∃ pre, script = pre ++ rest ∧ s'.fed = s.fed + totalFed pre ∧ s'.ctl = s.ctl ∧
    ∀ r, o = some r → ∃ a ∈ pre, a.rr = some r

section
variable {s s1 s2 s' : St} {script rest rest1 rest2 : List (Resp ε)} {o o1 o2 : Option (RR ε)}

theorem Reads.keep (hs : s'.fed = s.fed ∧ s'.ctl = s.ctl) : Reads s script none s' script :=
  ⟨[], rfl, hs.1, hs.2, nofun⟩

theorem Reads.one {a : Resp ε} (hs : s'.fed = s.fed + totalFed [a] ∧ s'.ctl = s.ctl) :
    Reads s (a :: rest) a.rr s' rest :=
  ⟨[a], rfl, hs.1, hs.2, fun _ hr => ⟨a, List.mem_singleton.2 rfl, hr⟩⟩

theorem Reads.trans (h1 : Reads s script o1 s1 rest1) (h2 : Reads s1 rest1 o2 s2 rest2) :
    Reads s script (o2.or o1) s2 rest2 := by
  obtain ⟨pre1, rfl, f1, c1, m1⟩ := h1
  obtain ⟨pre2, rfl, f2, c2, m2⟩ := h2
  refine ⟨pre1 ++ pre2, (List.append_assoc ..).symm, by rw [f2, f1, totalFed_append, Nat.add_assoc], c2.trans c1,
    fun r hr => ?_⟩
  cases o2 with
  | none => exact (m1 r hr).imp fun a h => ⟨List.mem_append_left _ h.1, h.2⟩
  | some _ => exact (m2 r hr).imp fun a h => ⟨List.mem_append_right _ h.1, h.2⟩

theorem Reads.fed (h : Reads s script o s' rest) : s'.fed + totalFed rest = s.fed + totalFed script := by
  obtain ⟨pre, rfl, hf, _⟩ := h
  rw [hf, totalFed_append, Nat.add_assoc]

theorem Reads.ctl (h : Reads s script o s' rest) : s'.ctl = s.ctl :=
  let ⟨_, _, _, hc, _⟩ := h
  hc

theorem Reads.clean {T : Tables ε} {need : Nat} {r : RR ε} (h : Reads s script (some r) s' rest)
    (hl : lawClean T need s.fed script = true) :
    lawClean T need s'.fed rest = true ∧ ∃ a, a.rr = some r ∧ lawClean T need s'.fed [a] = true := by
  obtain ⟨pre, rfl, hf, _, hm⟩ := h
  obtain ⟨a, ha, hr⟩ := hm r rfl
  obtain ⟨p1, p2, rfl⟩ := List.append_of_mem ha
  rw [lawClean_append, ← hf, lawClean_append, ← List.singleton_append, lawClean_append] at hl
  simp only [Bool.and_eq_true] at hl
  refine ⟨hl.2, a, hr, lawClean_mono_need T need [a] _ _ ?_ hl.1.2.1⟩
  rw [hf, totalFed_append]
  omega

theorem sendPending_eff : (sendPending s script).Sat fun x s2 rest2 calls =>
    calls = [.send s.wpend s.walert] ∧ Reads s script (x.map .exn) s2 rest2 := by
  unfold sendPending
  split
  all_goals first
    | exact .some ⟨rfl, .one ⟨rfl, rfl⟩⟩
    | exact .none

theorem flush_eff : (flush s script).Sat fun x s2 rest2 calls =>
    (s.wpend ≠ 0 → calls = [.send s.wpend s.walert]) ∧ Reads s script (x.map .exn) s2 rest2 := by
  unfold flush
  split
  · exact .some ⟨fun h => absurd ‹_› h, .keep ⟨rfl, rfl⟩⟩
  · exact fun _ _ _ _ h => (sendPending_eff h).imp_left fun hc _ => hc

end

theorem innerCatch_keeps (T : Tables ε) (s : St) (x : Exn ε) :
    (innerCatch T s x).fed = s.fed ∧ (innerCatch T s x).ctl = s.ctl := by
  cases x with
  | cls e p => simp only [innerCatch]; split <;> exact ⟨rfl, rfl⟩
  | cancel => exact ⟨rfl, rfl⟩
  | scopeTimeout => exact ⟨rfl, rfl⟩

theorem retry_eff {T : Tables ε} {m : Method} : ∀ {fuel : Nat} {s : St} {script : List (Resp ε)},
    (retry T m fuel s script).Sat fun r s' rest _ => Reads s script (some r) s' rest := by
  intro fuel
  induction fuel with
  | zero => intro s script; exact .none
  | succ fuel ih =>
    intro s script
    unfold retry
    split
    · rename_i n out alert rest0
      have E1 : Reads s (.ssl (.ret n) out alert :: rest0) _ (addOut s out alert) rest0 := .one ⟨rfl, rfl⟩
      split
      · exact .some E1
      · split
        · exact .none
        · rename_i hf
          exact .some (E1.trans (flush_eff hf).2)
        · rename_i hf
          exact .some (E1.trans (flush_eff hf).2)
    · rename_i e pat out alert rest0
      have E1 : Reads s (.ssl (.raise e pat) out alert :: rest0) _ (addOut s out alert) rest0 := .one ⟨rfl, rfl⟩
      split
      · -- WANT_READ: flush (if the table says so), then `readinto`
        have F : (if T.wantReadFlushes = true then flush (addOut s out alert) rest0
            else some (none, addOut s out alert, rest0, [])).Sat fun x s2 rest2 _ =>
              Reads (addOut s out alert) rest0 (x.map .exn) s2 rest2 := by
          split
          · exact fun _ _ _ _ h => (flush_eff h).2
          · exact .some (.keep ⟨rfl, rfl⟩)
        split
        · exact .none
        · rename_i hf
          exact .some ((E1.trans (F hf)).trans (.keep (innerCatch_keeps ..)))
        · rename_i s2 _ _ hf
          have E2 := E1.trans (F hf)
          split
          · rename_i k rest3
            have E : Reads s2 (.tr (.n k) :: rest3) _ { s2 with fed := s2.fed + (k + 1) } rest3 := .one ⟨rfl, rfl⟩
            split
            · exact .none
            · rename_i hrec
              exact .some ((E2.trans E).trans (ih hrec))
          · rename_i rest3
            have E : Reads s2 (.tr .eof :: rest3) _ { s2 with rEof := s2.rEof || T.readintoEofOnZero } rest3 :=
              .one ⟨rfl, rfl⟩
            split
            · exact .none
            · rename_i hrec
              exact .some ((E2.trans E).trans (ih hrec))
          · exact .some (E2.trans (.one (innerCatch_keeps ..)))
          · exact .some (E2.trans (.one ⟨rfl, rfl⟩))
          · exact .some (E2.trans (.one ⟨rfl, rfl⟩))
          · exact .none
      · -- WANT_WRITE
        split
        · exact .none
        · rename_i hf
          exact .some (E1.trans (sendPending_eff hf).2)
        · rename_i hf
          split
          · exact .none
          · rename_i hrec
            exact .some ((E1.trans (sendPending_eff hf).2).trans (ih hrec))
      · exact .some (E1.trans (.keep ⟨rfl, rfl⟩))
      · exact .none
      · exact .some E1
    · exact .none

theorem retry_ret_noflush {T : Tables ε} {m : Method} {fuel : Nat} {s : St} {n out : Nat} {alert : Bool} {rest : List (Resp ε)}
    (h : T.noFlushAfter.contains m = true) :
    retry T m (fuel + 1) s (.ssl (.ret n) out alert :: rest) = some (.ret n, addOut s out alert, rest, [.ssl m]) := by
  simp only [retry, h, if_true]

theorem retry_mark {T : Tables ε} {m : Method} {fuel : Nat} {s : St} {e : ε} {p : Bool} {out : Nat} {alert : Bool}
    {rest : List (Resp ε)} (h : retryAct T T.retryClauses e = some .markEofReraise) :
    retry T m (fuel + 1) s (.ssl (.raise e p) out alert :: rest) =
      some (.exn (.cls e p), markBoth (addOut s out alert), rest, [.ssl m, .rbioEof, .wbioEof]) := by
  simp only [retry, h]

/-- any sequence of `recv` / `recv_into` calls on one transport, run against the script; stops where the script ends -/
def recvSeq (T : Tables ε) (sc : Bool) : List Which → St → List (Resp ε) → List (Out ε × St)
  | [], _, _ => []
  | w :: ws, s, script =>
    match recv T sc w s script with
    | none => []
    | some (o, s', rest, _) => (o, s') :: recvSeq T sc ws s' rest

theorem syncCloseLoop_head (T : Tables ε) (script : List (UAns ε)) : ∃ tl, (syncCloseLoop T script).1 = .unwrap :: tl := by
  match script with
  | [] | .ok :: _ | .timeout :: _ => exact ⟨[], rfl⟩
  | .raise e :: rest =>
    simp only [syncCloseLoop]
    split
    · split <;> exact ⟨_, rfl⟩
    · split <;> exact ⟨_, rfl⟩
    · exact ⟨_, rfl⟩

theorem syncClose_last {T : Tables ε} {sc open_ : Bool} {script : List (UAns ε)} (hf : T.syncCloseFinally = true) :
    (syncClose T sc open_ script).1.getLast? = some .closeSocket := by
  simp [syncClose, hf]

theorem syncClose_head {T : Tables ε} {script : List (UAns ε)} (hu : T.syncCloseUnwraps = true) :
    (syncClose T true true script).1.head? = some .unwrap := by
  obtain ⟨tl, h⟩ := syncCloseLoop_head T script
  simp [syncClose, hu, h]

theorem clearBit_testBit (o b : Nat) : (clearBit o b).testBit b = false := by
  simp [clearBit, Nat.testBit_xor, Nat.testBit_and, Nat.one_shiftLeft, Nat.testBit_two_pow_self]

end EasyNet.TlsEof

/-
  C09 — lemmas for the close path.  For any table: `aclose` leaves the transport closed on every exit path, and the calls
  it makes begin with those of its inner `try` statement (`acloseUnwrap`), which begin with those of the retry loop.  Over
  the generated table, with UnwrapLaw (the first `unwrap()` appends the close_notify alert record to the write BIO): the
  first thing the wrapped transport is asked to do is to send bytes ending with that record — also when that `unwrap()` call
  FAILED with an SSL error after writing the alert (`acloseUnwrap_alert_sent`; needs the clause `except SSLError: …
  __flush_pending_writes()` of `aclose`, i.e. the generated `acloseFlushesOnSslError`).
-/
import EasyNet.Lemmas.TlsEofGen
namespace EasyNet.TlsEof
open EasyNet.Gen.TlsEof
variable {ε : Type}

/-- `hfl`: a round of the retry loop in which the code flushes the outgoing BIO right after the SSL call -/
theorem retry_send_first {T : Tables ε} {m : Method} {fuel : Nat} {s : St} {a : SslAns ε} {out : Nat} {alert : Bool}
    {rest0 : List (Resp ε)}
    (hfl : match a with
      | .ret _ => T.noFlushAfter.contains m = false
      | .raise e _ => (retryAct T T.retryClauses e = some .wantRead ∧ T.wantReadFlushes = true) ∨
          retryAct T T.retryClauses e = some .wantWrite)
    (hne : (addOut s out alert).wpend ≠ 0) :
    (retry T m (fuel + 1) s (.ssl a out alert :: rest0)).Sat fun _ _ _ calls =>
      ∃ tail, calls = .ssl m :: .send (addOut s out alert).wpend (addOut s out alert).walert :: tail := by
  match a, hfl with
  | .ret n, hfl =>
    simp only [retry, hfl, Bool.false_eq_true, if_false]
    split
    · exact .none
    all_goals
      rename_i hf
      cases (flush_eff hf).1 hne
      exact .some ⟨[], rfl⟩
  | .raise e p, .inl ⟨hact, hflush⟩ =>
    simp only [retry, hact, hflush, if_true]
    split
    · exact .none
    · rename_i hf
      cases (flush_eff hf).1 hne
      exact .some ⟨[], rfl⟩
    · rename_i hf
      cases (flush_eff hf).1 hne
      -- what `readinto` and the next round add comes after the `send_all`
      split
      · split
        · exact .none
        · exact .some ⟨_, rfl⟩
      · split
        · exact .none
        · exact .some ⟨_, rfl⟩
      · exact .some ⟨_, rfl⟩
      · exact .some ⟨_, rfl⟩
      · exact .some ⟨_, rfl⟩
      · exact .none
  | .raise e p, .inr hact =>
    simp only [retry, hact]
    split
    · exact .none
    · rename_i hf
      cases (sendPending_eff hf).1
      exact .some ⟨[], rfl⟩
    · rename_i hf
      cases (sendPending_eff hf).1
      split
      · exact .none
      · exact .some ⟨_, rfl⟩

theorem acloseUnwrap_spec {T : Tables ε} {fuel : Nat} {s : St} {script : List (Resp ε)} :
    (acloseUnwrap T fuel s script).Sat fun _ s' _ calls =>
      s'.ctl = s.ctl ∧ ∃ r s2 rest2 c2 tail, retry T .unwrap fuel s script = some (r, s2, rest2, c2) ∧ calls = c2 ++ tail ∧
        ∀ y, r = .exn y → sslFlushCaught T y = true → s2.wpend ≠ 0 → ∃ tail', tail = .send s2.wpend s2.walert :: tail' := by
  unfold acloseUnwrap
  split
  · exact .none
  · rename_i hr
    exact .some ⟨(retry_eff hr).ctl, _, _, _, _, [], hr, by simp, fun y hy => by cases hy⟩
  · rename_i y s2 rest2 calls2 hr
    have F := (retry_eff hr).ctl
    split
    · split
      · exact .none
      all_goals
        rename_i hf
        obtain ⟨hc, G⟩ := flush_eff hf
        exact .some ⟨G.ctl.trans F, _, _, _, _, _, hr, rfl, fun _ _ _ hne => ⟨[], hc hne⟩⟩
    · rename_i hcaught
      exact .some ⟨F, _, _, _, _, [], hr, by simp, fun y hy hc => by cases hy; exact absurd hc hcaught⟩

theorem innerClose_spec {s : St} {script : List (Resp ε)} :
    (innerClose s script).Sat fun _ s3 _ calls3 => s3 = { s with innerClosing := true } ∧ calls3 = [.innerClose] := by
  unfold innerClose
  split
  all_goals first
    | exact .some ⟨rfl, rfl⟩
    | exact .none

/-- `hforce`: `except BaseException: await aclose_forcefully(…)`; `hfinal`: the final `await self._transport.aclose()` -/
theorem aclose_spec {T : Tables ε} (hforce : T.acloseForceOnFail = true) (hfinal : T.acloseFinalClose = true) {sc : Bool}
    {s : St} {script : List (Resp ε)} (hc : s.closing = false) :
    (aclose T sc s script).Sat fun _ s' _ calls =>
      (s'.closing = true ∧ s'.closedEv = true ∧ s'.innerClosing = true) ∧
      (((sc || !T.acloseGuardSC) && !s.innerClosing && T.acloseUnwraps) = true →
        ∃ x s2 rest2 c2 tail, acloseUnwrap T (script.length + 1) { s with closing := true } script = some (x, s2, rest2, c2) ∧
          calls = c2 ++ tail) := by
  unfold aclose
  simp only [hc, Bool.false_eq_true, if_false, hforce, hfinal, if_true]
  split
  · split
    · exact .none
    · rename_i s2 rest2 calls2 hr
      have hcl : s2.closing = true := congrArg (·.1) (acloseUnwrap_spec hr).1
      split
      · exact .none
      · rename_i hi
        obtain ⟨rfl, _⟩ := innerClose_spec hi
        exact .some ⟨⟨by split <;> exact hcl, rfl, rfl⟩, fun _ => ⟨_, _, _, _, _, hr, List.append_assoc ..⟩⟩
    · rename_i x s2 rest2 calls2 hr
      have hcl : s2.closing = true := congrArg (·.1) (acloseUnwrap_spec hr).1
      exact .some ⟨⟨hcl, rfl, rfl⟩, fun _ => ⟨_, _, _, _, _, hr, rfl⟩⟩
  · rename_i hp
    split
    · exact .none
    · rename_i hi
      obtain ⟨rfl, _⟩ := innerClose_spec hi
      exact .some ⟨⟨rfl, rfl, rfl⟩, fun h => absurd h hp⟩

/-- answers of the first `unwrap()` that are not an error of the SSL object: it returned, or it wants I/O -/
def UnwrapAns (a : SslAns TExc) : Prop :=
  (∃ n, a = .ret n) ∨ (∃ p, a = .raise tables.wantReadCls p) ∨ (∃ p, a = .raise tables.wantWriteCls p)

/-- the first `unwrap()` FAILED: it raised an `SSLError` that is neither WANT_READ nor WANT_WRITE (OpenSSL's "application data
    after close notify", `SSLEOFError`, `SSLZeroReturnError`, `SSLSyscallError`, …) -/
def UnwrapFail (a : SslAns TExc) : Prop :=
  ∃ e p, a = .raise e p ∧ tables.sub e tables.sslError = true ∧ tables.sub e tables.wantReadCls = false ∧
    tables.sub e tables.wantWriteCls = false

theorem fact_wantw : retryAct tables tables.retryClauses tables.wantWriteCls = some .wantWrite := by decide
theorem fact_unwrap_flushes : tables.noFlushAfter.contains Method.unwrap = false := by decide

/-- `_retry_ssl_method`'s handlers in the order of the source: WANT_READ, WANT_WRITE, then any other SSL error -/
theorem retryAct_tables (e : TExc) : retryAct tables tables.retryClauses e =
    if tables.sub e tables.wantReadCls then some .wantRead
    else if tables.sub e tables.wantWriteCls then some .wantWrite
    else if tables.sub e tables.sslError then some .markEofReraise else none := by
  have h : tables.retryClauses = [([tables.wantReadCls], .wantRead), ([tables.wantWriteCls], .wantWrite),
      ([tables.sslError], .markEofReraise)] := rfl
  simp only [h, retryAct, catches, List.any, Bool.or_false]

theorem fact_fail_act (e : TExc) (h1 : tables.sub e tables.sslError = true) (h2 : tables.sub e tables.wantReadCls = false)
    (h3 : tables.sub e tables.wantWriteCls = false) : retryAct tables tables.retryClauses e = some .markEofReraise := by
  simp [retryAct_tables, h1, h2, h3]

/-- the generated table says `aclose` has the clause `except SSLError: with suppress(OSError): await self.__flush_pending_writes()`
    around the unwrap (a tree without it — the alert written by a failing `unwrap()` is never sent — stops here) -/
theorem fact_flush_clause : tables.acloseFlushesOnSslError = true := by decide

/-- … and that the clause is `except SSLError:` -/
theorem fact_flush_on : tables.acloseFlushOn = [tables.sslError] := by decide

theorem fact_fail_caught (e : TExc) (p : Bool) (h1 : tables.sub e tables.sslError = true) :
    sslFlushCaught tables (.cls e p) = true := by
  simp only [sslFlushCaught, fact_flush_clause, fact_flush_on, catches, List.any_cons, List.any_nil, Bool.or_false, Bool.true_and]
  exact h1

/-- the calls are `ssl.unwrap`, possibly the two BIO eof marks of the retry loop's `except SSLError` (no call of the wrapped
    transport), then `transport.send_all(<everything pending, ending with the alert>)` -/
theorem acloseUnwrap_alert_sent {fuel : Nat} {s : St} {a : SslAns TExc} {out : Nat} {rest0 : List (Resp TExc)} (hout : 0 < out)
    (ha : UnwrapAns a ∨ UnwrapFail a) :
    (acloseUnwrap tables (fuel + 1) s (.ssl a out true :: rest0)).Sat fun _ _ _ calls =>
      ∃ pre tail, calls = .ssl .unwrap :: (pre ++ .send (s.wpend + out) true :: tail) ∧
        (pre = [] ∨ pre = [.rbioEof, .wbioEof]) := by
  intro _ _ _ calls h
  have hw : (addOut s out true).wpend = s.wpend + out := rfl
  have hal : (addOut s out true).walert = true := if_neg (Nat.ne_of_gt hout)
  have hne : (addOut s out true).wpend ≠ 0 := by rw [hw]; omega
  obtain ⟨_, r, s3, rest3, c3, tail, hr, rfl, hsend⟩ := acloseUnwrap_spec h
  rcases ha with ha | ⟨e, p, rfl, h1, h2, h3⟩
  · -- returned / wants I/O: the retry loop itself sends it
    have hfl := fun h => retry_send_first h hne hr
    obtain ⟨t, rfl⟩ : ∃ t, c3 = .ssl .unwrap :: .send (addOut s out true).wpend (addOut s out true).walert :: t := by
      rcases ha with ⟨n, rfl⟩ | ⟨p, rfl⟩ | ⟨p, rfl⟩
      · exact hfl fact_unwrap_flushes
      · exact hfl (.inl ⟨fact_want, fact_wantflush⟩)
      · exact hfl (.inr fact_wantw)
    exact ⟨[], t ++ tail, by rw [hw, hal]; rfl, .inl rfl⟩
  · -- failed: `except SSLError` of the retry loop marks the BIOs and re-raises, `except SSLError` of aclose flushes
    simp only [retry_mark (fact_fail_act e h1 h2 h3), Option.some.injEq, Prod.mk.injEq] at hr
    obtain ⟨rfl, rfl, rfl, rfl⟩ := hr
    obtain ⟨t, rfl⟩ := hsend _ rfl (fact_fail_caught e p h1) hne
    have hal' : (markBoth (addOut s out true)).walert = true := hal
    exact ⟨[.rbioEof, .wbioEof], t, by rw [hal']; rfl, .inr rfl⟩

end EasyNet.TlsEof

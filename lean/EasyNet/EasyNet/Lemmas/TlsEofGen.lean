/-
  C09 — lemmas over the GENERATED tables (Gen/TlsEofTables.lean): what the generated clauses make of an exception class, in
  terms of the designated classes, with the few facts about the live class hierarchy that are needed (`hierarchy`, a case
  analysis over the alphabet), lifted to all scripts by the lemmas of Lemmas/TlsEof.lean.  When the Python source changes,
  the tables change and these are re-checked by `lake build`.
-/
import EasyNet.Gen.TlsEofTables
import EasyNet.Lemmas.TlsEof
namespace EasyNet.TlsEof
open EasyNet.Gen.TlsEof

/-- where the result classes of the SSL object sit in the live class hierarchy: the ragged and the clean end are SSL errors,
    and the clean end is none of the classes `_try_ssl_method` turns into would-block -/
theorem hierarchy (e : TExc) :
    (tables.sub e tables.eofError = true → tables.sub e tables.sslError = true) ∧
    (tables.sub e tables.zeroReturn = true → tables.sub e tables.sslError = true ∧ trySsl tables e = .reraise) := by
  cases e <;> decide

/-- `recv` / `recv_into` on an exception class leaving the retry loop, with `is_ssl_eof_error` read off its `match` cases -/
theorem recvMap_cls (sc : Bool) (w : Which) (e : TExc) (p : Bool) : recvMap tables sc w (.exn (.cls e p)) =
    if tables.sub e tables.zeroReturn || (!sc && (tables.sub e tables.eofError || (tables.sub e tables.sslError && p))) then .eof
    else .exc (.cls e p) := by
  have hc : tables.clausesOf w = [⟨[tables.zeroReturn], .retEof⟩,
      ⟨[tables.sslError], .seq (.ifEofErr (.ifNotSC .retEof .pass) .pass) .reraise⟩] := by cases w <;> rfl
  have hm : tables.eofCases = [⟨tables.eofError, false, true⟩, ⟨tables.sslError, true, true⟩] := rfl
  simp only [recvMap, hc, firstClause, catches, List.any, Bool.or_false, isEofErr, hm, List.find?]
  -- the EOF error is an SSL error, so `except SSLError` gets to see it
  have h := (hierarchy e).1
  cases tables.sub e tables.zeroReturn
  · cases hs : tables.sub e tables.sslError
    · cases he : tables.sub e tables.eofError
      · cases sc <;> rfl
      · cases hs.symm.trans (h he)
    · cases sc <;> cases tables.sub e tables.eofError <;> cases p <;> rfl
  · rfl

theorem syncClause (w : Which) (e : TExc) :
    firstClause tables (tables.syncClausesOf w) e = if tables.sub e tables.zeroReturn then some .retEof else none := by
  have h : tables.syncClausesOf w = [⟨[tables.zeroReturn], .retEof⟩] := by cases w <;> rfl
  simp only [h, firstClause, catches, List.any, Bool.or_false]

theorem recvMap_other (sc : Bool) (w : Which) (x : Exn TExc) (h : ∀ e p, x ≠ .cls e p) :
    (recvMap tables sc w (.exn x)).isEof = false := by
  cases x with
  | cls e p => exact absurd rfl (h e p)
  | cancel => rfl
  | scopeTimeout => rfl

theorem recvMap_cls_clean (w : Which) (e : TExc) (p : Bool) (he : (recvMap tables true w (.exn (.cls e p))).isEof = true) :
    tables.sub e tables.zeroReturn = true := by
  rw [recvMap_cls] at he
  cases hz : tables.sub e tables.zeroReturn with
  | false => rw [hz] at he; cases he
  | true => rfl

theorem recvMap_clean (need fed : Nat) (w : Which) (a : Resp TExc) (hl : lawClean tables need fed [a] = true)
    (he : a.rr.any (fun r => (recvMap tables true w r).isEof) = true) : need ≤ fed := by
  cases a with
  | ssl a _ _ =>
    cases a with
    | ret n =>
      cases n with
      | zero => exact lawClean_ssl hl rfl
      | succ n => cases he
    | raise e p => exact lawClean_ssl hl (recvMap_cls_clean w e p he)
  | tr a =>
    cases a with
    | raise e =>
      -- raised by the wrapped transport it would be an SSL error, which the law excludes
      exact absurd ((hierarchy e).2 (recvMap_cls_clean w e false he)).1 (Bool.eq_false_iff.1 (lawClean_tr hl))
    | _ => cases he

theorem recv_clean {need : Nat} {w : Which} {s : St} {script : List (Resp TExc)} (hl : lawClean tables need s.fed script = true) :
    (recv tables true w s script).Sat fun o s' rest _ => (o.isEof = true → need ≤ s'.fed) ∧
      lawClean tables need s'.fed rest = true ∧ s'.fed + totalFed rest = s.fed + totalFed script := by
  unfold recv
  split
  · exact .none
  · rename_i hr
    obtain ⟨hl', a, ha, hla⟩ := (retry_eff hr).clean hl
    exact .some ⟨fun he => recvMap_clean need _ w a hla (ha ▸ he), hl', (retry_eff hr).fed⟩

theorem recvSeq_clean (need : Nat) : ∀ (ws : List Which) (s : St) (script : List (Resp TExc)),
    lawClean tables need s.fed script = true →
    ∀ p ∈ recvSeq tables true ws s script, p.1.isEof = true → need ≤ p.2.fed ∧ p.2.fed ≤ s.fed + totalFed script := by
  intro ws
  induction ws with
  | nil => intro s script _ p hp; cases hp
  | cons w ws ih =>
    intro s script hl p hp he
    unfold recvSeq at hp
    split at hp
    · cases hp
    · rename_i o s' rest _ hrecv
      obtain ⟨h1, h2, h3⟩ := recv_clean hl hrecv
      rcases List.mem_cons.1 hp with rfl | hp
      · exact ⟨h1 he, by show s'.fed ≤ _; omega⟩
      · have I := ih s' rest h2 p hp he
        exact ⟨I.1, by omega⟩

/-- the EOF error of the engine: `SSLEOFError`, or `SSLError` carrying OpenSSL's UNEXPECTED_EOF_WHILE_READING reason -/
def EofCls (e : TExc) (p : Bool) : Prop := e = tables.eofError ∨ (e = tables.sslError ∧ p = true)

inductive Phase where
  | open_      -- `read_bio.write_eof()` not called yet
  | marked     -- called, no error answered yet
  | failed     -- the engine has answered the EOF error
  deriving DecidableEq, Repr

/-- `Ragged`: answers of a law-abiding engine to `read` once the wrapped transport is at EOF and no complete close_notify
    was fed (see Lemmas/TlsEof.lean header) -/
inductive Ragged : Phase → List (Resp TExc) → Prop where
  | nil (ph : Phase) : Ragged ph []
  | data (ph : Phase) (n : Nat) (rest : List (Resp TExc)) : ph ≠ .failed → Ragged ph rest →
      Ragged ph (.ssl (.ret (n + 1)) 0 false :: rest)
  | want (p : Bool) (rest : List (Resp TExc)) : rest ≠ [] → Ragged .marked rest →
      Ragged .open_ (.ssl (.raise tables.wantReadCls p) 0 false :: .tr .eof :: rest)
  | err (ph : Phase) (e : TExc) (p : Bool) (rest : List (Resp TExc)) : ph ≠ .open_ → EofCls e p → Ragged .failed rest →
      Ragged ph (.ssl (.raise e p) 0 false :: rest)

def phaseOK (ph : Phase) (s : St) : Prop := (ph = .open_ ↔ s.rEof = false) ∧ s.wpend = 0

theorem addOut_zero (s : St) (a : Bool) : addOut s 0 a = s := by
  cases s; simp [addOut]

theorem fact_want : retryAct tables tables.retryClauses tables.wantReadCls = some .wantRead := by decide
theorem fact_wantflush : tables.wantReadFlushes = true := by decide
theorem fact_eofzero : tables.readintoEofOnZero = true := by decide
theorem fact_mark (e : TExc) (p : Bool) (h : EofCls e p) : retryAct tables tables.retryClauses e = some .markEofReraise := by
  obtain rfl | ⟨rfl, _⟩ := h <;> decide

theorem fact_map (sc : Bool) (w : Which) (e : TExc) (p : Bool) (h : EofCls e p) :
    recvMap tables sc w (.exn (.cls e p)) = if sc then .exc (.cls e p) else .eof := by
  rw [recvMap_cls]
  obtain rfl | ⟨rfl, rfl⟩ := h <;> cases sc <;> rfl

theorem retry_data (fuel : Nat) (s : St) (n : Nat) (rest : List (Resp TExc)) :
    retry tables .read (fuel + 1) s (.ssl (.ret n) 0 false :: rest) = some (.ret n, s, rest, [.ssl .read]) := by
  rw [retry_ret_noflush (T := tables) (m := .read) rfl, addOut_zero]

theorem retry_err (fuel : Nat) (s : St) (e : TExc) (p : Bool) (h : EofCls e p) (rest : List (Resp TExc)) :
    retry tables .read (fuel + 1) s (.ssl (.raise e p) 0 false :: rest) =
      some (.exn (.cls e p), markBoth s, rest, [.ssl .read, .rbioEof, .wbioEof]) := by
  rw [retry_mark (fact_mark e p h), addOut_zero]

theorem retry_want {fuel : Nat} {s s' : St} (hp : s.wpend = 0) {p : Bool} {rest rest' : List (Resp TExc)} {r : RR TExc}
    {calls : List Call} (h : retry tables .read fuel { s with rEof := true } rest = some (r, s', rest', calls)) :
    retry tables .read (fuel + 1) s (.ssl (.raise tables.wantReadCls p) 0 false :: .tr .eof :: rest) =
      some (r, s', rest', .ssl .read :: .recvInto :: .rbioEof :: calls) := by
  have hf : flush s (.tr .eof :: rest) = some (none, s, .tr .eof :: rest, []) := by simp [flush, hp]
  simp only [retry, fact_want, fact_wantflush, fact_eofzero, addOut_zero, hf, if_true, Bool.or_true, h, List.nil_append,
    List.cons_append]

theorem retry_ragged {ph : Phase} {script : List (Resp TExc)} (hr : Ragged ph script) (hne : script ≠ []) :
    ∀ (fuel : Nat) (s : St), phaseOK ph s → script.length ≤ fuel →
    ∃ r s' rest calls ph', retry tables .read (fuel + 1) s script = some (r, s', rest, calls) ∧ phaseOK ph' s' ∧
      Ragged ph' rest ∧ rest.length < script.length ∧ (ph = .failed → ph' = .failed) ∧
      ((∃ n, r = .ret (n + 1) ∧ ph' ≠ .failed) ∨ (ph' = .failed ∧ ∃ e p, EofCls e p ∧ r = .exn (.cls e p))) := by
  induction hr with
  | nil => exact absurd rfl hne
  | data ph n rest hnf hrest =>
    exact fun fuel s hph _ =>
      ⟨_, s, rest, _, ph, retry_data fuel s (n + 1) rest, hph, hrest, Nat.lt_succ_self _, id, .inl ⟨n, rfl, hnf⟩⟩
  | err ph e p rest hno hc hrest =>
    exact fun fuel s hph _ => ⟨_, markBoth s, rest, _, .failed, retry_err fuel s e p hc rest, ⟨by simp [markBoth], hph.2⟩,
      hrest, Nat.lt_succ_self _, fun _ => rfl, .inr ⟨rfl, e, p, hc, rfl⟩⟩
  | want p rest hne' hrest ih =>
    intro fuel s hph hlen
    cases fuel with
    | zero => cases hlen
    | succ fuel =>
      obtain ⟨r, s', rest', calls, ph', h, h1, h2, h3, _, h5⟩ :=
        ih hne' fuel { s with rEof := true } ⟨by simp, hph.2⟩ (by simp only [List.length_cons] at hlen; omega)
      exact ⟨r, s', rest', _, ph', retry_want hph.2 h, h1, h2, by simp only [List.length_cons]; omega, nofun, h5⟩

theorem recv_ragged (sc : Bool) (w : Which) (ph : Phase) (s : St) (script : List (Resp TExc))
    (hph : phaseOK ph s) (hr : Ragged ph script) (hne : script ≠ []) :
    ∃ o s' rest calls ph', recv tables sc w s script = some (o, s', rest, calls) ∧ phaseOK ph' s' ∧ Ragged ph' rest ∧
      rest.length < script.length ∧ (ph = .failed → ph' = .failed) ∧
      ((∃ n, o = .data (n + 1) ∧ ph' ≠ .failed) ∨
       (ph' = .failed ∧ ∃ e p, EofCls e p ∧ o = if sc then .exc (.cls e p) else .eof)) := by
  obtain ⟨r, s', rest, calls, ph', h, h1, h2, h3, h4, h5⟩ := retry_ragged hr hne _ s hph (Nat.le_refl _)
  refine ⟨recvMap tables sc w r, s', rest, calls, ph', by simp only [recv, h], h1, h2, h3, h4, h5.imp ?_ ?_⟩
  · rintro ⟨n, rfl, hn⟩
    exact ⟨n, rfl, hn⟩
  · rintro ⟨hf, e, p, hc, rfl⟩
    exact ⟨hf, e, p, hc, fact_map sc w e p hc⟩

end EasyNet.TlsEof

/-
  C12: invariant of the TLS send machine (Model/TlsSend.lean).
  The lock part is inherited from the sender machine (`LockInv`, `WireInv` on `base`).
-/
import EasyNet.Lemmas.SendersLock
import EasyNet.Model.TlsSend
namespace EasyNet.C12
open EasyNet

theorem writeAllToSsl_eq (dq : List Bytes) (bio : Bytes) : writeAllToSsl dq bio = bio ++ dq.flatten := by
  induction dq generalizing bio with
  | nil => exact (List.append_nil bio).symm
  | cons d dq ih => rw [writeAllToSsl, ih, List.flatten_cons, List.append_assoc]

theorem step_rel_isSome {cfg : Cfg} {s : Sys} {t : Tid} (h : s.pc t = .holding) : ∃ s', step cfg s (.rel t) = some s' :=
  ⟨_, if_pos h⟩

structure TlsInv (cfg : Cfg) (s : TlsSys) : Prop where
  wi : WireInv (cfgL cfg) s.base
  li : LockInv s.base
  /-- the backlog is always written out completely before the task can be suspended -/
  dq : s.deque = []
  /-- written ++ being written ++ waiting in the BIO = the data of all calls, in call order -/
  data : s.twire ++ s.inflight ++ s.bio = flat cfg s.calls
  quiet : (∀ t, s.base.pc t ≠ .holding) → s.inflight = []
  /-- ciphertext left in the BIO always has somebody queued on the send lock who will flush it -/
  pending : s.bio ≠ [] → ∃ t, s.base.pc t = .waiting
  noSending : ∀ t, (s.base.pc t).isSending = false
  order : ∀ t, (s.calls.filter (fun p => p.1 == t)).map (·.2) =
      List.range (s.base.idx t + (if s.base.pc t = .idle then 0 else 1))

theorem TlsInv.init (cfg : Cfg) : TlsInv cfg TlsSys.init :=
  ⟨WireInv.init _, LockInv.init, rfl, rfl, fun _ => rfl, fun h => absurd rfl h, fun _ => rfl, fun _ => rfl⟩

/-- The clauses of `TlsInv` that also hold in the middle of a step, when the send lock has just been granted and the
    new owner has not looked at the BIO yet (then the BIO may be non-empty with nobody queued). -/
structure TlsCore (cfg : Cfg) (s : TlsSys) : Prop where
  wi : WireInv (cfgL cfg) s.base
  li : LockInv s.base
  dq : s.deque = []
  data : s.twire ++ s.inflight ++ s.bio = flat cfg s.calls
  noSending : ∀ t, (s.base.pc t).isSending = false
  order : ∀ t, (s.calls.filter (fun p => p.1 == t)).map (·.2) =
      List.range (s.base.idx t + (if s.base.pc t = .idle then 0 else 1))

variable {cfg : Cfg} {s s' : TlsSys} {b : Sys} {t : Tid} {p : PC}

theorem TlsInv.core (h : TlsInv cfg s) : TlsCore cfg s := ⟨h.wi, h.li, h.dq, h.data, h.noSending, h.order⟩

theorem TlsCore.inv (c : TlsCore cfg s) (quiet : (∀ t, s.base.pc t ≠ .holding) → s.inflight = [])
    (pending : s.bio ≠ [] → ∃ t, s.base.pc t = .waiting) : TlsInv cfg s :=
  ⟨c.wi, c.li, c.dq, c.data, quiet, pending, c.noSending, c.order⟩

/-- The lock machine moves `t` (to a point outside the transport); the number of calls `t` has started, which is what
    `order` counts, stays the same. -/
theorem TlsCore.move (c : TlsCore cfg s) {e : Ev} (hb : C12.step (cfgL cfg) s.base e = some b)
    (hpc : b.pc = upd s.base.pc t p) (hp : p.isSending = false) (hidx : ∀ u, u ≠ t → b.idx u = s.base.idx u)
    (hn : b.idx t + (if p = .idle then 0 else 1) = s.base.idx t + (if s.base.pc t = .idle then 0 else 1)) :
    TlsCore cfg { s with base := b } := by
  refine ⟨c.wi.step hb, c.li.step rfl c.wi hb, c.dq, c.data, fun u => ?_, fun u => ?_⟩
  · dsimp only; rw [hpc]; exact upd_forall (P := fun q => PC.isSending q = false) c.noSending hp t u
  · dsimp only
    rw [c.order u, hpc]; by_cases hu : u = t
    · rw [hu, upd_same, hn]
    · rw [upd_other _ _ _ _ hu, hidx u hu]

theorem TlsCore.send (c : TlsCore cfg s) (hid : s.base.pc t = .idle) {e : Ev}
    (hb : C12.step (cfgL cfg) s.base e = some b) (hpc : b.pc = upd s.base.pc t p) (hp : p.isSending = false)
    (hpi : p ≠ .idle) (hidx : b.idx = s.base.idx) :
    TlsCore cfg { s with base := b, bio := writeAllToSsl (s.deque ++ [cfg.pkt t (s.base.idx t)]) s.bio, deque := [],
                         calls := s.calls ++ [(t, s.base.idx t)] } := by
  refine ⟨c.wi.step hb, c.li.step rfl c.wi hb, rfl, ?_, fun u => ?_, fun u => ?_⟩
  · dsimp only
    rw [writeAllToSsl_eq, c.dq, flat_append, flat_singleton, ← c.data]
    simp only [List.nil_append, List.flatten_cons, List.flatten_nil, List.append_nil, List.append_assoc]
  · dsimp only; rw [hpc]; exact upd_forall (P := fun q => PC.isSending q = false) c.noSending hp t u
  · dsimp only
    rw [List.filter_append, List.map_append, c.order u, hidx, hpc]; by_cases hu : u = t
    · rw [hu, upd_same, hid, if_neg hpi]; simp [List.range_succ]
    · rw [upd_other _ _ _ _ hu]; simp [Ne.symm hu]

theorem TlsInv.of_rel (c : TlsCore cfg s) (hin : s.inflight = [])
    (pending : s.bio ≠ [] → ∃ u, u ≠ t ∧ s.base.pc u = .waiting)
    (hb : C12.step (cfgL cfg) s.base (.rel t) = some b) : TlsInv cfg { s with base := b } := by
  cases Step.of_step hb with
  | rel _ hown =>
    refine (c.move hb rfl rfl (fun u hu => upd_other _ _ _ _ hu) ?_).inv (fun _ => hin) fun hne => ?_
    · rw [hown]; exact congrArg (· + 0) (upd_same ..)
    · obtain ⟨u, hut, hu⟩ := pending hne
      exact ⟨u, (upd_other _ _ _ _ hut).trans hu⟩

theorem TlsCore.afterGrant (c : TlsCore cfg s) (owner : s.base.pc t = .holding) (idle : s.inflight = [])
    (h : TlsSys.afterGrant cfg s t = some s') : TlsInv cfg s' := by
  unfold TlsSys.afterGrant at h
  split at h
  · rename_i hempty
    obtain ⟨b, hb, rfl⟩ := Option.map_eq_some_iff.1 h
    exact .of_rel c idle (fun hne => absurd (List.isEmpty_iff.1 hempty) hne) hb
  · cases h
    refine TlsCore.inv ⟨c.wi, c.li, c.dq, ?_, c.noSending, c.order⟩ (fun hall => absurd owner (hall t))
      (fun hne => absurd rfl hne)
    show s.twire ++ s.bio ++ [] = _
    rw [← c.data, idle, List.append_nil, List.append_nil]

theorem TlsInv.step {e : TEv} (h : TlsInv cfg s) (hs : tstep cfg s e = some s') : TlsInv cfg s' := by
  -- while the send lock is free nobody is flushing
  have hidle : s.base.lock.locked = false → s.inflight = [] := fun hfree =>
    h.quiet fun u hu => by have := (hfree ▸ h.li.excl).free u; rw [hu] at this; cases this
  cases e with
  | send t =>
    obtain ⟨hid, hs⟩ := Option.ite_none_right_eq_some.1 hs
    cases hb : C12.step (cfgL cfg) s.base (.send t) with
    | none => rw [hb] at hs; cases hs
    | some b =>
      rw [hb] at hs
      have c := fun p => h.core.send (p := p) hid hb
      cases Step.of_step hb with
      | fast _ _ _ hfree =>
        have hs : TlsSys.afterGrant cfg _ t = some s' := (if_pos (upd_same ..)).symm.trans hs
        exact (c _ rfl rfl PC.noConfusion rfl).afterGrant (upd_same ..) (hidle hfree) hs
      | park =>
        have hw : upd s.base.pc t .waiting t ≠ .holding := by rw [upd_same]; exact PC.noConfusion
        cases (if_neg hw).symm.trans hs
        refine (c _ rfl rfl PC.noConfusion rfl).inv (fun hall => h.quiet fun u hu => ?_) fun _ => ⟨t, upd_same ..⟩
        have hut : u ≠ t := by rintro rfl; rw [hid] at hu; cases hu
        exact hall u ((upd_other _ _ _ _ hut).trans hu)
      | bare _ _ hno => cases hno
  | resume t =>
    rw [tstep] at hs
    cases hb : C12.step (cfgL cfg) s.base (.resume t) with
    | none => rw [hb] at hs; cases hs
    | some b =>
      rw [hb] at hs
      cases Step.of_step hb with
      | resume _ hw hset =>
        refine (h.core.move hb rfl rfl (fun _ _ => rfl) ?_).afterGrant (upd_same ..)
          (hidle (h.li.wf.set_is_head hset).1) hs
        rw [hw]; rfl
  | write t n =>
    obtain ⟨hown, hs⟩ := Option.ite_none_right_eq_some.1 hs
    cases hs
    refine ⟨h.wi, h.li, h.dq, ?_, fun hall => absurd hown (hall t), h.pending, h.noSending, h.order⟩
    show s.twire ++ s.inflight.take n ++ s.inflight.drop n ++ s.bio = _
    rw [← h.data, List.append_assoc s.twire, List.take_append_drop]
  | ret t =>
    obtain ⟨hc, hs⟩ := Option.ite_none_right_eq_some.1 hs
    obtain ⟨b, hb, rfl⟩ := Option.map_eq_some_iff.1 hs
    refine .of_rel h.core hc.2 (fun hne => ?_) hb
    obtain ⟨u, hu⟩ := h.pending hne
    exact ⟨u, fun hut => (by rw [hut, hc.1] at hu; cases hu), hu⟩

theorem TlsInv.run {evs : List TEv} (h : TlsInv cfg s) (hr : trun cfg s evs = some s') : TlsInv cfg s' := by
  induction evs generalizing s with
  | nil => cases hr; exact h
  | cons e es ih =>
    simp only [trun] at hr
    split at hr
    · rename_i s1 hs1; exact ih (h.step hs1) hr
    · cases hr

theorem TlsInv.one_holding (h : TlsInv cfg s) (t u : Tid) (ht : s.base.pc t = .holding) (hu : s.base.pc u = .holding) :
    t = u :=
  h.li.one t u (by rw [ht]; rfl) (by rw [hu]; rfl)

theorem TlsInv.flushed (h : TlsInv cfg s) (hq : ∀ t, s.base.pc t = .idle) : s.twire = flat cfg s.calls := by
  have h1 : s.inflight = [] := h.quiet fun t => by rw [hq t]; exact PC.noConfusion
  have h2 : s.bio = [] := Decidable.byContradiction fun hb =>
    let ⟨t, ht⟩ := h.pending hb
    nomatch (hq t).symm.trans ht
  have := h.data
  rwa [h1, h2, List.append_nil, List.append_nil] at this

end EasyNet.C12

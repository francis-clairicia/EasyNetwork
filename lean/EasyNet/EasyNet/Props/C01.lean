/-
  C01 — Stream round-trip: packets survive any chunking of the byte stream.
  Property theorems only (helper lemmas live in EasyNet/Lemmas).

  What is proved here is about the framing/consumer logic of EasyNetwork (models in EasyNet/Model,
  tied to the Python source by the correspondence check).  Payload codecs (str/json/struct/base64/…)
  sit on top of the delivered frames and are parameters: a valid packet `p` is represented by its
  encoded payload bytes, `ValidPayload` is the explicit well-formedness predicate.
-/
import EasyNet.Lemmas.RU
import EasyNet.Lemmas.RUSpec
import EasyNet.Lemmas.ConsumerSim
import EasyNet.Lemmas.BRUSpec
import EasyNet.Lemmas.Fixed
import EasyNet.Lemmas.Producer
import EasyNet.Lemmas.JRawGrammar
import EasyNet.Lemmas.GenericFrToy
namespace EasyNet

/-- **C01, separator-framed serializers, copying consumer.**
    For every list of valid payloads and *every* way of cutting the produced byte stream into reads
    (empty reads allowed), the consumer delivers exactly those frames, in order, once each, reports no
    error, and retains nothing. -/
theorem C01_sep_copy_roundtrip (sep : Bytes) (limit : Nat) (ke : Bool) (hsep : sep ≠ [])
    (ps : List Bytes) (hvalid : ∀ p ∈ ps, ValidPayload sep limit p)
    (chunks : List Bytes) (hcut : chunks.flatten = encodeFrames sep ps) :
    (Consumer.run RU.init (RU.feed sep limit ke) Consumer.new chunks).2 = ps.map (frameOf sep ke) ∧
    Consumer.held (·.buf) (Consumer.run RU.init (RU.feed sep limit ke) Consumer.new chunks).1 = [] := by
  have h := Consumer.run_eq_decodeW (RU.refines sep limit ke hsep) (RU.spec_laws sep limit ke hsep) chunks
  rw [hcut, RU.decode_frames sep limit ke hsep ps hvalid] at h
  have h := h (AllOk_map_frame _ ps fun _ _ => trivial)
  exact ⟨h.1, h.2.held_eq (RU.inv_buf sep limit)⟩

/-- non-vacuity: a two-packet CRLF stream cut inside the separator meets the hypotheses -/
example : (∀ p ∈ ([[97, 98], [99]] : List Bytes), ValidPayload [13, 10] 10 p) ∧
    ([[97, 98, 13], [10, 99, 13, 10]] : List Bytes).flatten = encodeFrames [13, 10] [[97, 98], [99]] := by
  decide +kernel

/-- **C01, separator-framed serializers, buffer-filling consumer** (buffer capacity `cap` = the serializer's limit).
    For every list of payloads safely inside the capacity and *every* history of non-empty fills that fit the write
    buffer offered at that moment (any fill sizes) and whose concatenation is the produced stream, the consumer
    delivers exactly those frames, in order, once each, reports no error, and retains nothing. -/
theorem C01_sep_buffered_roundtrip (sep : Bytes) (cap : Nat) (ke : Bool) (hsep : sep ≠ []) (hcap : 0 < cap)
    (ps : List Bytes) (hvalid : ∀ p ∈ ps, ValidPayloadB sep cap p)
    (fills : List Bytes) (hcut : fills.flatten = encodeFrames sep ps)
    (r : BufConsumer BRUState × List Item)
    (hrun : BufConsumer.runFills BRU.init 0 cap (BRU.feed true sep ke) BufConsumer.new fills = some r) :
    r.2 = ps.map (frameOf sep ke) ∧
    BufConsumer.Rel (·.buflen) (BRU.spec sep cap ke) (BRU.Inv sep cap) cap r.1 [] := by
  have h := BufConsumer.runFills_eq_decodeW cap (BRU.refines sep cap ke hsep) (BRU.spec_laws sep cap ke hsep) hcap fills
  rw [hcut, BRU.decode_frames sep cap ke hsep ps hvalid] at h
  exact h (BRU.frames_allOk sep cap ke ps hvalid) r hrun

/-- the buffered consumer can always accept at least one more byte between reads (it never reaches the
    "start position is set to the end of the buffer" crash), provided the separator fits the buffer -/
theorem C01_sep_buffered_room (sep : Bytes) (cap : Nat) (ke : Bool) (hsep : sep ≠ []) (hcap : sep.length ≤ cap)
    (c : BufConsumer BRUState) (h : Bytes)
    (hrel : BufConsumer.Rel (·.buflen) (BRU.spec sep cap ke) (BRU.Inv sep cap) cap c h) (hw : c.written = 0) :
    0 < (BufConsumer.prepare BRU.init 0 cap c).room :=
  BRU.room_pos_of_idle sep cap ke hsep hcap hrel (hrel.held_need hw)

example : (∀ p ∈ ([[97, 98], [99]] : List Bytes), ValidPayloadB [13, 10] 8 p) := by decide +kernel

/-- **C01, fixed-size serializers (struct, named-tuple struct, FixedSizePacketSerializer), copying consumer.**
    Every chunking of a stream of `n`-byte packets is delivered as exactly those packets; nothing is left over. -/
theorem C01_fixed_copy_roundtrip (n : Nat) (hn : 0 < n) (ps : List Bytes) (hvalid : ∀ p ∈ ps, p.length = n)
    (chunks : List Bytes) (hcut : chunks.flatten = ps.flatten) :
    (Consumer.run RE.init (RE.feed n) Consumer.new chunks).2 = ps.map Item.frame ∧
    Consumer.held (·.buf) (Consumer.run RE.init (RE.feed n) Consumer.new chunks).1 = [] := by
  have h := Consumer.run_eq_decodeW (RE.refines n) (RE.spec_laws n hn) chunks
  rw [hcut, RE.decode_packets n hn ps hvalid] at h
  have h := h (AllOk_map_frame id ps fun _ _ => trivial)
  exact ⟨h.1, h.2.held_eq fun _ _ hinv => hinv⟩

/-- **C01, fixed-size serializers, buffer-filling consumer** (capacity `cap = max n hint`), any fitting fills. -/
theorem C01_fixed_buffered_roundtrip (n cap : Nat) (hn : 0 < n) (hcap : 0 < cap)
    (ps : List Bytes) (hvalid : ∀ p ∈ ps, p.length = n)
    (fills : List Bytes) (hcut : fills.flatten = ps.flatten)
    (r : BufConsumer BFXState × List Item)
    (hrun : BufConsumer.runFills BFX.init 0 cap (BFX.feed n) BufConsumer.new fills = some r) :
    r.2 = ps.map Item.frame ∧ BufConsumer.Rel (·.nread) (RE.spec n) BFX.Inv cap r.1 [] := by
  have h := BufConsumer.runFills_eq_decodeW cap (BFX.refines n cap hn) (RE.spec_laws n hn) hcap fills
  rw [hcut, RE.decode_packets n hn ps hvalid] at h
  exact h (AllOk_map_frame id ps fun _ _ => trivial) r hrun

example : (∀ p ∈ ([[1, 2, 3], [4, 5, 6]] : List Bytes), p.length = 3) ∧
    ([[1], [2, 3, 4, 5], [6]] : List Bytes).flatten = ([[1, 2, 3], [4, 5, 6]] : List Bytes).flatten := by decide

/-- **C01, producer and consumer together (separator-framed serializers).**  Take any chunks `bs` that the real
    producer logic (`AutoSep.produce`: strip trailing separators, refuse data containing the separator — also across the
    junction with the appended one) emits, each within the limit; cut their concatenation anywhere.  The copying consumer
    delivers, for each chunk, exactly its payload (the chunk without its separator), in order, once, and retains nothing.
    So "valid packet" = "packet the producer accepts and that is not longer than the limit". -/
theorem C01_sep_producer_roundtrip (sep : Bytes) (limit : Nat) (hsep : sep ≠ [])
    (bs : List Bytes) (hprod : ∀ b ∈ bs, ∃ data, AutoSep.produce sep data = .chunk b)
    (hlim : ∀ b ∈ bs, b.length ≤ limit + sep.length)
    (chunks : List Bytes) (hcut : chunks.flatten = bs.flatten) :
    (Consumer.run RU.init (RU.feed sep limit false) Consumer.new chunks).2
      = bs.map (fun b => Item.frame (b.take (b.length - sep.length))) ∧
    Consumer.held (·.buf) (Consumer.run RU.init (RU.feed sep limit false) Consumer.new chunks).1 = [] := by
  have L := RU.spec_laws sep limit false hsep
  -- each chunk is `p ++ sep` for a valid payload `p`, so the spec cuts it out whole
  have hdec := L.prog.decodeW_map_frames id (fun b => b.take (b.length - sep.length)) bs fun b hb rest => by
    obtain ⟨data, hd⟩ := hprod b hb
    obtain ⟨p, rfl, _, hfo⟩ := AutoSep.produce_valid sep data b hsep hd
    have hl := hlim _ hb
    rw [List.length_append] at hl
    show RU.spec sep limit false (p ++ sep ++ rest) = .done ((p ++ sep).take ((p ++ sep).length - sep.length)) rest
    rw [List.length_append, Nat.add_sub_cancel, List.take_left]
    exact RU.spec_frame sep limit false hsep p rest ⟨hfo, Nat.le_of_add_le_add_right hl⟩
  rw [List.map_id] at hdec
  have h := Consumer.run_eq_decodeW (RU.refines sep limit false hsep) L chunks
  rw [hcut, hdec] at h
  have h := h (AllOk_map_frame _ bs fun _ _ => trivial)
  exact ⟨h.1, h.2.held_eq (RU.inv_buf sep limit)⟩

example : AutoSep.produce [124, 124] [97, 124] = .refused ∧ AutoSep.produce [124, 124] [97, 124, 98] = .chunk [97, 124, 98, 124, 124] := by
  decide +kernel

/-! Generic framers (`FileBasedPacketSerializer`, `AbstractCompressorSerializer`; models in Model/GenericFr.lean).
    The file loader is a parameter `load` subject to the laws `GenericFr.Stable` (+ `Progress`); a *frame* is a byte string
    on which the loader decides (packet or expected error) exactly when all of it is there (`IsFrame`). -/
section GenericFramers
open GenericFr

/-- **C01, file-based framers, copying consumer.**  For every loader satisfying the laws, every list of frames each of
    which loads as a packet exactly at its own end, and *every* way of cutting the stream into reads of at most `m` bytes
    (empty reads allowed) with `|frame| + m ≤ limit + 1` (exact; the safe zone `|frame| + m ≤ limit` of the C07 table is
    the slightly stronger round form), the consumer delivers exactly those frames, in order, once each, reports no
    error, and retains nothing. -/
theorem C01_generic_copy_roundtrip (load : Bytes → LoadRes) (S : Stable load) (P : Progress load) (limit m : Nat)
    (fs : List Bytes) (hfs : ∀ f ∈ fs, IsFrame load f) (hok : ∀ f ∈ fs, load f = .ok f.length)
    (hsafe : ∀ f ∈ fs, f.length + m ≤ limit + 1)
    (chunks : List Bytes) (hm : ∀ c ∈ chunks, c.length ≤ m) (hcut : chunks.flatten = fs.flatten) :
    (Consumer.run GenericFr.init (feed load limit) Consumer.new chunks).2 = fs.map (fun f => Item.frame (okTag :: f)) ∧
    Consumer.held (·.buf) (Consumer.run GenericFr.init (feed load limit) Consumer.new chunks).1 = [] := by
  obtain ⟨hitems, hrel⟩ := copy_run_frames load S P limit m fs hfs hsafe chunks hm hcut
  exact ⟨hitems.trans (map_frameItem_ok hok), hrel.held_eq fun _ _ h => h.1⟩

/-- **C01, file-based framers, buffer-filling consumer** (buffer of `min(sizehint, limit)` bytes as allocated by
    `create_deserializer_buffer`).  Same statement for every history of non-empty fills that fit the write buffer offered
    at that moment, under the safe-zone condition `|frame| + min(sizehint, limit) ≤ limit + 1`; nothing is retained: no
    re-injected remainder is pending and a suspended framer, if any, holds no byte. -/
theorem C01_generic_buffered_roundtrip (load : Bytes → LoadRes) (S : Stable load) (P : Progress load)
    (limit hint : Nat) (hlimit : 0 < limit) (hhint : 0 < hint)
    (fs : List Bytes) (hfs : ∀ f ∈ fs, IsFrame load f) (hok : ∀ f ∈ fs, load f = .ok f.length)
    (hsafe : ∀ f ∈ fs, f.length + bufCap limit hint ≤ limit + 1)
    (fills : List Bytes) (hcut : fills.flatten = fs.flatten)
    (r : BufConsumer GenericFr.State × List Item)
    (hrun : BufConsumer.runFills GenericFr.init 0 (bufCap limit hint) (bfeed load limit) BufConsumer.new fills = some r) :
    r.2 = fs.map (fun f => Item.frame (okTag :: f)) ∧ r.1.crashed = false ∧ r.1.written = 0 ∧
    (∀ s, r.1.fr = some s → s.buf = []) := by
  obtain ⟨hitems, h⟩ := buffered_run_frames load S P limit hint hlimit hhint fs hfs hsafe fills hcut r hrun
  exact ⟨hitems.trans (map_frameItem_ok hok), h⟩

/-- non-vacuity, on the exact edge of the zone (toy length-prefixed loader, limit 8, reads of at most 3 bytes, two frames
    of 6 bytes: `6 + 3 = limit + 1`), cut so that reads carry the tail of one frame and the head of the next; the third
    read brings the accumulated bytes to exactly 8 -/
example : Stable toyLoad ∧ Progress toyLoad ∧
    (∀ f ∈ ([[5, 1, 2, 3, 4, 5], [5, 6, 7, 8, 9, 10]] : List Bytes),
      IsFrameD toyLoad f ∧ toyLoad f = .ok f.length ∧ f.length + 3 ≤ 8 + 1) ∧
    (∀ c ∈ ([[5, 1], [2, 3, 4], [5, 5, 6], [7, 8, 9], [10]] : List Bytes), c.length ≤ 3) ∧
    ([[5, 1], [2, 3, 4], [5, 5, 6], [7, 8, 9], [10]] : List Bytes).flatten
      = ([[5, 1, 2, 3, 4, 5], [5, 6, 7, 8, 9, 10]] : List Bytes).flatten ∧
    (Consumer.run GenericFr.init (feed toyLoad 8) Consumer.new [[5, 1], [2, 3, 4], [5, 5, 6], [7, 8, 9], [10]]).2
      = [.frame (okTag :: [5, 1, 2, 3, 4, 5]), .frame (okTag :: [5, 6, 7, 8, 9, 10])] ∧
    (BufConsumer.runFills GenericFr.init 0 (bufCap 8 3) (bfeed toyLoad 8) BufConsumer.new
        [[5, 1], [2, 3, 4], [5, 5, 6], [7, 8, 9], [10]]).map (·.2)
      = some [.frame (okTag :: [5, 1, 2, 3, 4, 5]), .frame (okTag :: [5, 6, 7, 8, 9, 10])] :=
  ⟨toyLoad_stable, toyLoad_progress, by decide +kernel⟩

/-- **C01, producer side of the file-based serializers.**  `incremental_serialize` yields nothing at all for an empty
    dump — the documented exclusion ("packets the producer encodes to nothing are outside `Valid`") — and exactly the
    dump otherwise, so the stream of packets with non-empty dumps is the concatenation of the dumps (which is what the
    round-trip theorems take as frames), and `serialize` is the join of the chunks. -/
theorem C01_generic_producer_nothing_when_empty :
    produce [] = [] ∧
    (∀ dump : Bytes, dump ≠ [] → produce dump = [dump]) ∧
    (∀ dump : Bytes, (produce dump).flatten = serialize dump) ∧
    (∀ dumps : List Bytes, (dumps.flatMap produce).flatten = dumps.flatten) := by
  have h2 : ∀ dump : Bytes, dump ≠ [] → produce dump = [dump] :=
    fun dump hd => if_neg (mt List.eq_nil_of_length_eq_zero hd)
  have h3 : ∀ dump : Bytes, (produce dump).flatten = serialize dump := by
    intro dump
    cases dump with
    | nil => rfl
    | cons x xs => rw [h2 (x :: xs) nofun]; exact List.append_nil _
  refine ⟨rfl, h2, h3, fun dumps => ?_⟩
  induction dumps with
  | nil => rfl
  | cons d ds ih => rw [List.flatMap_cons, List.flatten_append, ih, h3 d]; rfl

/-- the compressor's producer: two chunks (the first possibly empty) whose join is `serialize` -/
theorem C01_generic_compressor_producer (comp : Bytes → Bytes × Bytes) (data : Bytes) :
    (cproduce comp data).length = 2 ∧ (cproduce comp data).flatten = cserialize comp data := by
  simp [cproduce, cserialize]

/-- **C01, compressor framers — partial.**  Proved for a decompressor whose view as a loader (`loadOf dec`) satisfies
    the laws on ALL byte strings, which excludes decompressors that can report an error (`DecRes.corrupt` drops
    everything received, which is not extension-stable).  Missing: the same statement with the laws relativised to the
    prefixes of the stream at hand (then real zlib/bz2 qualify).  Both receive paths. -/
theorem C01_generic_compressor_roundtrip_partial (dec : Bytes → DecRes) (S : Stable (loadOf dec)) (P : Progress (loadOf dec))
    (fs : List Bytes) (hfs : ∀ f ∈ fs, IsFrame (loadOf dec) f) (hok : ∀ f ∈ fs, loadOf dec f = .ok f.length)
    (chunks : List Bytes) (hcut : chunks.flatten = fs.flatten) :
    (Consumer.run cinit (cfeed dec) Consumer.new chunks).2 = fs.map (fun f => Item.frame (okTag :: f)) :=
  (ccopy_run_frames dec S P fs hfs chunks hcut).trans (map_frameItem_ok hok)

/-- **C01, compressor framers, buffer-filling consumer — partial** (same gap as `C01_generic_compressor_roundtrip_partial`):
    buffer of `sizehint` bytes, every accepted history of non-empty fitting fills. -/
theorem C01_generic_compressor_buffered_partial (dec : Bytes → DecRes) (S : Stable (loadOf dec)) (P : Progress (loadOf dec))
    (hint : Nat) (hhint : 0 < hint)
    (fs : List Bytes) (hfs : ∀ f ∈ fs, IsFrame (loadOf dec) f) (hok : ∀ f ∈ fs, loadOf dec f = .ok f.length)
    (fills : List Bytes) (hcut : fills.flatten = fs.flatten) (r : BufConsumer CState × List Item)
    (hrun : BufConsumer.runFills cinit 0 (cbufCap hint) (cbfeed dec) BufConsumer.new fills = some r) :
    r.2 = fs.map (fun f => Item.frame (okTag :: f)) ∧ r.1.crashed = false := by
  rw [cbfeed_eq] at hrun
  obtain ⟨⟨hitems, hsim⟩, -⟩ :=
    runFills_sim hhint (cfeed_fits dec S) fills _ _ (sim_new _ _ _ (cfeed_fits dec S).init) r hrun
  exact ⟨hitems.trans (C01_generic_compressor_roundtrip_partial dec S P fs hfs hok fills hcut), hsim.crashed⟩

end GenericFramers

/-- **C01, raw JSON (`JSONSerializer(use_lines=False)`): producer and consumer together.**
    `JRaw.JText` is the grammar of the texts the encoder emits (Lemmas/JRawGrammar.lean; a superset: objects / arrays of
    arbitrary nesting depth whose members are separated by any bytes other than quotes, brackets, braces and backslashes;
    strings of any bytes with backslash escapes, in particular runs of backslashes before a quote; plain values = non-empty
    runs of value bytes not starting with a quote, bracket or brace).  `JRaw.produce` appends "\n" iff the text does not
    start with `{`, `[` or `"`.
    For every list of such texts, each at most `limit` bytes long, and EVERY way of cutting the produced stream into reads
    (empty reads allowed), the copying consumer over `JRaw.feed` delivers exactly one frame per text, in order, reports no
    error and retains nothing.  Each frame is exactly what the producer emitted for the text: the text itself for objects,
    arrays and strings, and the text plus its terminating newline for plain values — the trailing-whitespace rule of
    `_split_partial_document`: whitespace that follows a complete document in the same buffer is attached to the frame
    (here that is only ever the producer's newline, because the next text does not start with whitespace); the JSON decoder
    ignores it. -/
theorem C01_jraw_roundtrip (limit : Nat) (ps : List Bytes) (hvalid : ∀ p ∈ ps, JRaw.JText p ∧ p.length ≤ limit)
    (chunks : List Bytes) (hcut : chunks.flatten = (ps.map JRaw.produce).flatten) :
    (Consumer.run JRaw.init (JRaw.feed limit) Consumer.new chunks).2 = ps.map (fun p => Item.frame (JRaw.produce p)) ∧
    Consumer.held (·.doc) (Consumer.run JRaw.init (JRaw.feed limit) Consumer.new chunks).1 = [] := by
  have hok : ∀ d ∈ ps.map JRaw.docOf, d.ok limit := fun d hd => by
    obtain ⟨p, hp, rfl⟩ := List.mem_map.mp hd
    exact JRaw.docOf_ok limit (hvalid p hp).1 (hvalid p hp).2
  have hbytes : (ps.map JRaw.docOf).map JRaw.Doc.bytes = ps.map JRaw.produce := by
    rw [List.map_map]; exact List.map_congr_left fun p _ => JRaw.docOf_bytes p
  have hrun := JRaw.run_docs limit _ hok [] (JRaw.isTail_nil limit) chunks (by rw [hbytes, List.append_nil]; exact hcut)
  refine ⟨?_, hrun.2 rfl⟩
  rw [hrun.1, List.map_map]
  exact List.map_congr_left fun p _ => congrArg Item.frame (JRaw.docOf_bytes p)

/-- non-vacuity: `{"a":"}\\\""}` (a string holding a brace, an escaped backslash and an escaped quote), `12`, `[[],{}]`
    are texts of the grammar; the second one gets a newline -/
example : JRaw.JText [123, 34, 97, 34, 58, 34, 125, 92, 92, 92, 34, 34, 125] ∧ JRaw.JText [49, 50] ∧
    JRaw.JText [91, 91, 93, 44, 123, 125, 93] ∧ JRaw.produce [49, 50] = [49, 50, 10] := by
  refine ⟨?_, ?_, ?_, rfl⟩
  · exact .obj [34, 97, 34, 58, 34, 125, 92, 92, 92, 34, 34] (.str [97] _ (.char _ _ (by decide) (by decide) .nil)
      (.filler 58 _ (by decide) (.str [125, 92, 92, 92, 34] _
        (.char _ _ (by decide) (by decide) (.esc _ _ (.esc _ _ .nil))) .nil)))
  · exact .plain _ (by decide) (by decide)
  · exact .arr [91, 93, 44, 123, 125] (.arr [] _ .nil (.filler 44 _ (by decide) (.obj [] _ .nil .nil)))

/-- the theorem applied: that stream cut in the middle of the backslash run and between value and newline -/
example : (Consumer.run JRaw.init (JRaw.feed 13) Consumer.new
      [[123, 34, 97, 34, 58, 34, 125, 92, 92], [92, 34, 34, 125, 49, 50], [10, 91, 91, 93, 44, 123], [125, 93]]).2
    = [.frame [123, 34, 97, 34, 58, 34, 125, 92, 92, 92, 34, 34, 125], .frame [49, 50, 10], .frame [91, 91, 93, 44, 123, 125, 93]] := by
  decide +kernel

end EasyNet

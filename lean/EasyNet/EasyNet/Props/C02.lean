/-
  C02 — Parsing depends only on the bytes; a bad frame costs exactly one error.
  Property theorems only.  (Framing level: an item `.frame d` is what the payload codec then turns into exactly
  one packet or exactly one parse error — the codec is applied per delivered frame and cannot affect framing.)
-/
import EasyNet.Props.C01
import EasyNet.Lemmas.Resume
namespace EasyNet

/-- **C02 sentence 1, separator framers, copying consumer.**  For every byte stream whose one-go decoding reports
    no size error (all frames and the unterminated tail within the limit; payloads may be undecodable), and for
    every way of cutting it into reads, the consumer delivers exactly the frame-by-frame decoding `decodeW` of the
    stream and retains exactly the undecoded suffix. -/
theorem C02_sep_copy_chunking_independent (sep : Bytes) (limit : Nat) (ke : Bool) (hsep : sep ≠ [])
    (chunks : List Bytes)
    (hsafe : NoLimit (decodeW (RU.spec sep limit ke) chunks.flatten).2) :
    (Consumer.run RU.init (RU.feed sep limit ke) Consumer.new chunks).2
      = (decodeW (RU.spec sep limit ke) chunks.flatten).2 ∧
    Consumer.held (·.buf) (Consumer.run RU.init (RU.feed sep limit ke) Consumer.new chunks).1
      = (decodeW (RU.spec sep limit ke) chunks.flatten).1 := by
  have h := Consumer.run_eq_decodeW (RU.refines sep limit ke hsep) (RU.spec_laws sep limit ke hsep) chunks
    (AllOk_of_NoLimit _ hsafe)
  exact ⟨h.1, h.2.held_eq (RU.inv_buf sep limit)⟩

/-- two chunkings of the same stream are indistinguishable -/
theorem C02_sep_copy_two_chunkings (sep : Bytes) (limit : Nat) (ke : Bool) (hsep : sep ≠ [])
    (cs₁ cs₂ : List Bytes) (hsame : cs₁.flatten = cs₂.flatten)
    (hsafe : NoLimit (decodeW (RU.spec sep limit ke) cs₁.flatten).2) :
    (Consumer.run RU.init (RU.feed sep limit ke) Consumer.new cs₁).2
      = (Consumer.run RU.init (RU.feed sep limit ke) Consumer.new cs₂).2 := by
  rw [(C02_sep_copy_chunking_independent sep limit ke hsep cs₁ hsafe).1,
      (C02_sep_copy_chunking_independent sep limit ke hsep cs₂ (by rw [← hsame]; exact hsafe)).1, hsame]

/-- **One frame, one item, exactly that frame consumed** — whatever the payload bytes are (decodable or not):
    a well-delimited frame at the head of the accumulated bytes is cut out as one item and the remainder is
    exactly what follows its terminator. -/
theorem C02_one_item_per_frame (sep : Bytes) (limit : Nat) (ke : Bool) (hsep : sep ≠ []) (p rest : Bytes)
    (hv : ValidPayload sep limit p) :
    RU.spec sep limit ke (p ++ sep ++ rest) = .done (if ke then p ++ sep else p) rest :=
  RU.spec_frame sep limit ke hsep p rest hv

/-- non-vacuity: an undecodable payload (0xff) followed by a good one, cut inside the separator -/
example : NoLimit (decodeW (RU.spec [13, 10] 8 false) ([[255, 13], [10, 97, 13, 10]] : List Bytes).flatten).2 := by
  decide +kernel

/-- **C02 sentence 1, buffered path.**  For every byte stream whose one-go decoding reports no size error and whose
    frames are safely inside the buffer (`|payload| + |sep| < cap`; payloads may be undecodable), every history of
    fitting fills yields exactly the frame-by-frame decoding of the stream. -/
theorem C02_sep_buffered_chunking_independent (sep : Bytes) (cap : Nat) (ke : Bool) (hsep : sep ≠ []) (hcap : 0 < cap)
    (fills : List Bytes)
    (hsafe : AllOk (BRU.okFrame sep cap ke) (decodeW (BRU.spec sep cap ke) fills.flatten).2)
    (r : BufConsumer BRUState × List Item)
    (hrun : BufConsumer.runFills BRU.init 0 cap (BRU.feed true sep ke) BufConsumer.new fills = some r) :
    r.2 = (decodeW (BRU.spec sep cap ke) fills.flatten).2 ∧
    BufConsumer.Rel (·.buflen) (BRU.spec sep cap ke) (BRU.Inv sep cap) cap r.1
      (decodeW (BRU.spec sep cap ke) fills.flatten).1 :=
  BufConsumer.runFills_eq_decodeW cap (BRU.refines sep cap ke hsep) (BRU.spec_laws sep cap ke hsep) hcap fills hsafe
    r hrun

/-- **C02 sentence 1, both receive paths.**  On a stream that is safe for the buffered path, the copying consumer
    (any chunking) and the buffer-filling consumer (any fitting fills) deliver the same items: the frame-by-frame
    decoding of the stream. -/
theorem C02_sep_paths_agree (sep : Bytes) (limit : Nat) (ke : Bool) (hsep : sep ≠ []) (hlim : 0 < limit)
    (chunks fills : List Bytes) (hsame : chunks.flatten = fills.flatten)
    (hsafe : AllOk (BRU.okFrame sep limit ke) (decodeW (BRU.spec sep limit ke) fills.flatten).2)
    (r : BufConsumer BRUState × List Item)
    (hrun : BufConsumer.runFills BRU.init 0 limit (BRU.feed true sep ke) BufConsumer.new fills = some r) :
    (Consumer.run RU.init (RU.feed sep limit ke) Consumer.new chunks).2 = r.2 := by
  have hagree := decodeW_paths_agree sep limit ke hsep fills.flatten hsafe
  have hnl : NoLimit (decodeW (RU.spec sep limit ke) chunks.flatten).2 := by
    rw [hsame, hagree]
    intro it hit heq
    subst heq
    exact absurd (hsafe Item.limit hit) (by simp)
  rw [(C02_sep_copy_chunking_independent sep limit ke hsep chunks hnl).1,
      (C02_sep_buffered_chunking_independent sep limit ke hsep hlim fills hsafe r hrun).1, hsame, hagree]

/-- **C02 sentence 2, copying path: delivery resumes intact after a size rejection.**
    The stream is `big ++ sep ++ tail`, `big` of any length (far over the limit, right at it, or under it) with no earlier
    occurrence of the separator.  For *every* chunking: the items delivered are a non-empty group belonging to `big`
    (size errors and/or fragments) followed by exactly what a fresh consumer delivers for `tail` — the first frame that
    starts after the rejected frame's terminator, and all later ones, arrive intact, once, in order. -/
theorem C02_sep_copy_resume_after_limit (sep : Bytes) (limit : Nat) (ke : Bool) (hsep : sep ≠ [])
    (big tail : Bytes) (hbig : firstOcc sep (big ++ sep) = some big.length)
    (chunks : List Bytes) (hcut : chunks.flatten = big ++ sep ++ tail) :
    ∃ junk chunks', junk ≠ [] ∧ chunks'.flatten = tail ∧
      (Consumer.run RU.init (RU.feed sep limit ke) Consumer.new chunks).2
        = junk ++ (Consumer.run RU.init (RU.feed sep limit ke) Consumer.new chunks').2 := by
  have R := RU.refines sep limit ke hsep
  obtain ⟨junk, cs', hj, hfl, h1, _⟩ := refRun_resume hsep (RU.spec_eq sep limit ke)
    (RU.spec_laws sep limit ke hsep).prog big tail hbig chunks [] 0 (Or.inl rfl) (Nat.zero_le _) hcut
  exact ⟨junk, cs', hj, hfl, by
    rw [(Consumer.run_ref R chunks _ [] .new).1, (Consumer.run_ref R cs' _ [] .new).1, h1]⟩

/-- … and when `tail` itself decodes without size error, what follows the junk is its frame-by-frame decoding. -/
theorem C02_sep_copy_resume_then_decode (sep : Bytes) (limit : Nat) (ke : Bool) (hsep : sep ≠ [])
    (big tail : Bytes) (hbig : firstOcc sep (big ++ sep) = some big.length)
    (htail : NoLimit (decodeW (RU.spec sep limit ke) tail).2)
    (chunks : List Bytes) (hcut : chunks.flatten = big ++ sep ++ tail) :
    ∃ junk, junk ≠ [] ∧
      (Consumer.run RU.init (RU.feed sep limit ke) Consumer.new chunks).2
        = junk ++ (decodeW (RU.spec sep limit ke) tail).2 := by
  obtain ⟨junk, cs', hj, hfl, h1⟩ := C02_sep_copy_resume_after_limit sep limit ke hsep big tail hbig chunks hcut
  refine ⟨junk, hj, ?_⟩
  rw [h1, (C02_sep_copy_chunking_independent sep limit ke hsep cs' (by rw [hfl]; exact htail)).1, hfl]

/-- **C02 sentence 2, buffered path** (repaired `_buffered_readuntil`): same statement for every history of fitting fills. -/
theorem C02_sep_buffered_resume_after_limit (sep : Bytes) (cap : Nat) (ke : Bool) (hsep : sep ≠ []) (hcap : 0 < cap)
    (big tail : Bytes) (hbig : firstOcc sep (big ++ sep) = some big.length)
    (htail : AllOk (BRU.okFrame sep cap ke) (decodeW (BRU.spec sep cap ke) tail).2)
    (fills : List Bytes) (hcut : fills.flatten = big ++ sep ++ tail)
    (r : BufConsumer BRUState × List Item)
    (hrun : BufConsumer.runFills BRU.init 0 cap (BRU.feed true sep ke) BufConsumer.new fills = some r) :
    ∃ junk, junk ≠ [] ∧ r.2 = junk ++ (decodeW (BRU.spec sep cap ke) tail).2 := by
  have L := BRU.spec_laws sep cap ke hsep
  have hsim := BufConsumer.runFills_ref (BRU.refines sep cap ke hsep) hcap fills _ [] (.new cap) r hrun
  obtain ⟨junk, cs', hj, hfl, h1, _⟩ := refRun_resume hsep (BRU.spec_eq sep cap ke) L.prog big tail hbig fills [] 0
    (Or.inl rfl) (Nat.zero_le _) hcut
  refine ⟨junk, hj, ?_⟩
  rw [hsim.1, h1, refRun_chunk_independent L cs' [] (Or.inl rfl) (by rw [hfl]; exact htail), hfl]
  rfl

/-- non-vacuity: limit 4, frame `aaaaaaaa` (8 bytes) + CRLF + `ok` + CRLF, cut so that the CR arrives with the overrun -/
example : firstOcc [13, 10] (([97, 97, 97, 97, 97, 97, 97, 97] : Bytes) ++ [13, 10]) = some 8 ∧
    (Consumer.run RU.init (RU.feed [13, 10] 4 false) Consumer.new
      [[97, 97, 97, 97, 97, 97, 97, 97, 13], [10, 111, 107, 13, 10]]).2 = [.limit, .frame [], .frame [111, 107]] := by
  decide +kernel

section GenericFramers
open GenericFr

/-- **C02 sentence 1, file-based framers.**  For every stream of frames (packets and well-delimited bad frames in any
    order) safely within the limit — `|frame| + largest read ≤ limit + 1` on each path — any cutting into reads on the
    copying path and any history of fitting fills on the buffered path deliver the same items: the limit-free
    frame-by-frame decoding `decodeW (specU load)` of the stream, one item per frame, nothing retained.
    (Deviation from DESIGN.md: the reference is the limit-free decoder, not `decodeAll spec` — the size check of this
    framer looks at everything accumulated, so decoding the whole stream in one go is itself outside the safe zone.) -/
theorem C02_generic_chunking_independent (load : Bytes → LoadRes) (S : Stable load) (P : Progress load)
    (limit m hint : Nat) (hlimit : 0 < limit) (hhint : 0 < hint)
    (fs : List Bytes) (hfs : ∀ f ∈ fs, IsFrame load f)
    (hsafe : ∀ f ∈ fs, f.length + m ≤ limit + 1) (hsafeB : ∀ f ∈ fs, f.length + bufCap limit hint ≤ limit + 1)
    (chunks : List Bytes) (hm : ∀ c ∈ chunks, c.length ≤ m) (hcut : chunks.flatten = fs.flatten)
    (fills : List Bytes) (hcutB : fills.flatten = fs.flatten) (r : BufConsumer GenericFr.State × List Item)
    (hrun : BufConsumer.runFills GenericFr.init 0 (bufCap limit hint) (bfeed load limit) BufConsumer.new fills = some r) :
    (Consumer.run GenericFr.init (feed load limit) Consumer.new chunks).2 = (decodeW (specU load) fs.flatten).2 ∧
    r.2 = (decodeW (specU load) fs.flatten).2 ∧
    decodeW (specU load) fs.flatten = ([], fs.map (frameItem load)) := by
  rw [decode_frames load S P fs hfs]
  exact ⟨(copy_run_frames load S P limit m fs hfs hsafe chunks hm hcut).1,
    (buffered_run_frames load S P limit hint hlimit hhint fs hfs hsafeB fills hcutB r hrun).1, rfl⟩

/-- a parse error item (the tag byte of a delivered frame says so) -/
def GenericFr.isParseError : Item → Bool
  | .frame (t :: _) => t == badTag
  | _ => false

/-- **C02, one error per bad frame.**  A well-delimited frame the loader rejects, followed by anything: exactly one
    parse-error item, which consumes exactly that frame — the remainder is exactly what follows it; and in every stream
    of frames the number of parse errors delivered (any safe chunking) is the number of bad frames, every other frame
    being delivered intact. -/
theorem C02_generic_one_error_per_bad_frame (load : Bytes → LoadRes) (S : Stable load) (P : Progress load)
    (limit m : Nat) :
    (∀ f rest : Bytes, IsFrame load f → load f = .bad f.length →
        specU load (f ++ rest) = .done (badTag :: f) rest ∧
        ((f ++ rest).length ≤ limit → spec load limit (f ++ rest) = .done (badTag :: f) rest)) ∧
    (∀ fs chunks : List Bytes, (∀ f ∈ fs, IsFrame load f) → (∀ f ∈ fs, f.length + m ≤ limit + 1) → (∀ c ∈ chunks, c.length ≤ m) →
        chunks.flatten = fs.flatten →
        (Consumer.run GenericFr.init (feed load limit) Consumer.new chunks).2 = fs.map (frameItem load) ∧
        ((Consumer.run GenericFr.init (feed load limit) Consumer.new chunks).2.filter GenericFr.isParseError).length
          = (fs.filter (fun f => decide (load f = .bad f.length))).length) := by
  constructor
  · intro f rest hf hbad
    have h1 := specU_frame load S f rest hf
    rw [if_neg (by rw [hbad]; nofun)] at h1
    exact ⟨h1, fun hle => (spec_eq_specU load limit _ hle).trans h1⟩
  · intro fs chunks hfs hsafe hm hcut
    have h1 := (copy_run_frames load S P limit m fs hfs hsafe chunks hm hcut).1
    refine ⟨h1, ?_⟩
    -- a frame's item is a parse error exactly when the loader rejects the frame
    have htag : ∀ f ∈ fs, (GenericFr.isParseError ∘ frameItem load) f = decide (load f = .bad f.length) := by
      intro f hf
      rcases (hfs f hf).whole with h | h
      · rw [Function.comp, frameItem, if_pos h, h]; rfl
      · rw [Function.comp, frameItem, if_neg (by rw [h]; nofun), h]; exact (decide_eq_true rfl).symm
    rw [h1, List.filter_map, List.length_map, List.filter_congr htag]

/-- non-vacuity: a toy stream packet / bad frame (header 0xff) / packet, limit 8, reads of 2 bytes -/
example : (∀ f ∈ ([[2, 7, 7], [255], [1, 9]] : List Bytes), IsFrameD toyLoad f ∧ f.length + 2 ≤ 8) ∧
    toyLoad [255] = .bad 1 ∧
    (Consumer.run GenericFr.init (feed toyLoad 8) Consumer.new [[2, 7], [7, 255], [1, 9]]).2
      = [.frame (okTag :: [2, 7, 7]), .frame (badTag :: [255]), .frame (okTag :: [1, 9])] ∧
    (BufConsumer.runFills GenericFr.init 0 (bufCap 8 1) (bfeed toyLoad 8) BufConsumer.new
        [[2], [7], [7], [255], [1], [9]]).map (·.2)
      = some [.frame (okTag :: [2, 7, 7]), .frame (badTag :: [255]), .frame (okTag :: [1, 9])] := by
  decide +kernel

end GenericFramers
/-- **C02 sentence 1, raw JSON framer, copying consumer — proved for streams without optional whitespace between documents.**
    Take any stream made of well-delimited documents (`JRaw.Doc.ok`: an object / array / string that the scanner closes
    exactly on its last byte and that is at most `limit` bytes long, or a run of at most `limit` value bytes followed by one
    whitespace byte; the documents need NOT be valid JSON — `{]}` is well delimited and costs exactly one parse error),
    followed by an incomplete tail within the limit.  Then every two chunkings of the same bytes deliver the same items:
    exactly one frame per document, exactly that document's bytes, in order — which is also the one-go decoding
    `decodeW (JRaw.spec limit)` of the stream.

    PARTIAL with respect to the property's sentence in one respect, which the proof forced: documents must follow each other
    without *optional* whitespace (the single terminator of a plain value is part of its document).  With optional whitespace
    the statement about frames is false — see the `example` below: `_split_partial_document` attaches to a document whatever
    whitespace has already arrived behind it, so the same bytes cut differently give `{}·` `[]` or `{}` `·[]`.  The packets
    after JSON decoding are the same (the decoder ignores surrounding whitespace; exercised by the C02 harness cases with
    gaps, not proved), but acceptance is not: whitespace that arrives after its document was delivered counts towards the
    next document's limit.  Missing for the full statement: the same theorem modulo whitespace attribution, for streams
    where each gap plus the following document is within the limit. -/
theorem C02_jraw_chunking_independent_partial (limit : Nat) (docs : List JRaw.Doc) (hok : ∀ d ∈ docs, d.ok limit)
    (tail : Bytes) (htail : JRaw.TailOk limit tail ∨ tail = [])
    (cs₁ cs₂ : List Bytes) (h₁ : cs₁.flatten = (docs.map JRaw.Doc.bytes).flatten ++ tail) (h₂ : cs₂.flatten = cs₁.flatten) :
    (Consumer.run JRaw.init (JRaw.feed limit) Consumer.new cs₁).2
      = (Consumer.run JRaw.init (JRaw.feed limit) Consumer.new cs₂).2 ∧
    (Consumer.run JRaw.init (JRaw.feed limit) Consumer.new cs₁).2 = docs.map (fun d => Item.frame d.bytes) ∧
    (Consumer.run JRaw.init (JRaw.feed limit) Consumer.new cs₁).2 = (decodeW (JRaw.spec limit) cs₁.flatten).2 := by
  have ht := JRaw.IsTail.of_ok_or_nil htail
  have r1 := (JRaw.run_docs limit docs hok tail ht cs₁ h₁).1
  have r2 := (JRaw.run_docs limit docs hok tail ht cs₂ (h₂.trans h₁)).1
  exact ⟨r1.trans r2.symm, r1, by rw [r1, h₁, JRaw.decodeW_docs limit docs hok tail ht]⟩

/-- **The whitespace rule, exactly** (what the partial theorem above excludes between documents): whitespace `w` that follows
    a well-delimited document in the same buffer, up to the next non-whitespace byte (`goodRest x`) or the end of the buffer,
    is attached to the frame; nothing else is.  One document, one item, exactly `document ++ w` consumed — whether or not the
    document is valid JSON. -/
theorem C02_jraw_one_item_per_document (limit : Nat) (d : JRaw.Doc) (hd : d.ok limit) (w x : Bytes)
    (hw : w.all JRaw.isWs = true) (hx : JRaw.goodRest x = true) :
    JRaw.spec limit (d.bytes ++ w ++ x) = .done (d.bytes ++ w) x :=
  JRaw.Doc.ws_attach limit d hd w x hw hx

example : (JRaw.Doc.encl [123, 93, 125]).ok 8 ∧ ([32, 10] : Bytes).all JRaw.isWs = true ∧ JRaw.goodRest [91] = true := by
  decide +kernel

/-- non-vacuity: `{]}` (malformed, well delimited), `12\n`, `"a\\"`, then the unfinished `[1,` -/
example : (∀ d ∈ [JRaw.Doc.encl [123, 93, 125], .plain [49, 50] 10, .encl [34, 97, 92, 92, 34]], d.ok 8) ∧
    JRaw.TailOk 8 [91, 49, 44] := by decide +kernel

/-- the excluded point: with optional whitespace between documents the frames depend on the chunking
    (`{} []` cut after the space vs before it) -/
example : (Consumer.run JRaw.init (JRaw.feed 8) Consumer.new [[123, 125, 32], [91, 93]]).2
      = [.frame [123, 125, 32], .frame [91, 93]] ∧
    (Consumer.run JRaw.init (JRaw.feed 8) Consumer.new [[123, 125], [32, 91, 93]]).2
      = [.frame [123, 125], .frame [32, 91, 93]] := by decide +kernel

end EasyNet

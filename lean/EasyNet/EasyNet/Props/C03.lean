/-
  C03 — Receive endpoints: every complete packet once, then a sticky end-of-stream.  Property theorems only.

  Model: `C03.EP` (EasyNet/Model/Endpoint.lean) = `_DataReceiverImpl.receive` / `_BufferedReceiverImpl.receive` of the
  blocking and of the asynchronous stream endpoints, over any consumer interface and any transport script.
  `refRun spec [] reads` is the frame-by-frame decoding of the bytes read so far (Model/Spec.lean).
-/
import EasyNet.Lemmas.Endpoint
import EasyNet.Props.C02
namespace EasyNet
open EasyNet.C03 EasyNet.C15

/-- **Delivery.**  For every consumer that simulates a byte-level spec (copying or buffered, any refining framer), every
    transport script (data in any chunking, would-block, errors, end of stream anywhere) and every history of
    `recv_packet` calls with any timeouts: what has been delivered so far, followed by what is still complete inside the
    consumer, is exactly the frame-by-frame decoding of the bytes read so far — every complete packet once, in order;
    and the bytes read are a prefix of the bytes the peer sent. -/
theorem C03_delivery {κ : Type} {I : Iface κ} {spec : Bytes → SRes} {Rel : κ → Bytes → Prop}
    (Sim : IfaceSim I spec Rel) {ok : Bytes → Prop} (L : SpecLaws spec ok) (hwant : ∀ k h, Rel k h → decodeW spec h = (h, []) → 0 < (I.want k).2)
    (k0 : κ) (hk0 : Rel k0 []) (script : List TEv) (calls : List Bool) :
    (∃ h, Rel (EP.calls I ⟨k0, false, script, [], 0⟩ calls).1.k h ∧
        refRun spec [] (EP.calls I ⟨k0, false, script, [], 0⟩ calls).1.reads
          = ((decodeW spec h).1, items (EP.calls I ⟨k0, false, script, [], 0⟩ calls).2 ++ (decodeW spec h).2)) ∧
    (EP.calls I ⟨k0, false, script, [], 0⟩ calls).1.reads.flatten
        ++ pending (EP.calls I ⟨k0, false, script, [], 0⟩ calls).1.script = pending script := by
  have := calls_full Sim L.prog hwant calls ⟨k0, false, script, [], 0⟩ [] (Tracks.init hk0)
  rw [List.nil_append] at this
  exact this

/-- **End-of-stream is reported only after every complete packet was delivered**, and a trailing incomplete frame is
    never delivered: when a call ends with ConnectionAbortedError, the items delivered so far are *all* of the
    frame-by-frame decoding of the bytes read, and what the consumer still holds decodes to nothing. -/
theorem C03_eos_after_everything {κ : Type} {I : Iface κ} {spec : Bytes → SRes} {Rel : κ → Bytes → Prop}
    (Sim : IfaceSim I spec Rel) {ok : Bytes → Prop} (L : SpecLaws spec ok) (hwant : ∀ k h, Rel k h → decodeW spec h = (h, []) → 0 < (I.want k).2)
    (s : EP κ) (zero : Bool) (D : List Item) (hinv : EInv spec Rel s D)
    (heos : (EP.receive I s zero).2 = .eos) :
    (EP.receive I s zero).1.eofReached = true ∧
    ∃ h, Rel (EP.receive I s zero).1.k h ∧ decodeW spec h = (h, []) ∧
         refRun spec [] (EP.receive I s zero).1.reads = (h, D) := by
  obtain ⟨_, hdr, hlatch, _⟩ := receive_full Sim L.prog hwant s zero D hinv
  exact ⟨hlatch heos, hdr (by rw [heos]; rfl)⟩

/-- **Sticky end-of-stream.**  After a call reported end-of-stream, every later call — whatever its timeout — reports it
    again, performs no transport read (so it cannot block) and delivers nothing. -/
theorem C03_sticky {κ : Type} {I : Iface κ} {spec : Bytes → SRes} {Rel : κ → Bytes → Prop}
    (Sim : IfaceSim I spec Rel) {ok : Bytes → Prop} (L : SpecLaws spec ok) (hwant : ∀ k h, Rel k h → decodeW spec h = (h, []) → 0 < (I.want k).2)
    (s : EP κ) (zero : Bool) (D : List Item) (hinv : EInv spec Rel s D)
    (heos : (EP.receive I s zero).2 = .eos) (later : List Bool) :
    (EP.calls I (EP.receive I s zero).1 later).2 = later.map (fun _ => ROut.eos) ∧
    (EP.calls I (EP.receive I s zero).1 later).1.nreads = (EP.receive I s zero).1.nreads := by
  obtain ⟨he, hD⟩ := C03_eos_after_everything Sim L hwant s zero D hinv heos
  exact calls_sticky Sim later (EP.receive I s zero).1 D hD he

/-- **Whole connection, separator-framed serializers, copying path.**  The peer sends `stream` in any chunking and then
    closes; reads may be refused with would-block any number of times.  Whatever the history of calls and timeouts:
    the packets delivered are a prefix of the frame-by-frame decoding of the bytes read, and as soon as a call reports
    end-of-stream they are all of it. -/
theorem C03_connection_sep_copy (sep : Bytes) (limit : Nat) (ke : Bool) (hsep : sep ≠ []) (maxRecv : Nat) (hmax : 0 < maxRecv)
    (script : List TEv) (calls : List Bool) :
    items (EP.calls (copyIface RU.init (RU.feed sep limit ke) maxRecv) ⟨Consumer.new, false, script, [], 0⟩ calls).2
      <+: (refRun (RU.spec sep limit ke) []
            (EP.calls (copyIface RU.init (RU.feed sep limit ke) maxRecv) ⟨Consumer.new, false, script, [], 0⟩ calls).1.reads).2 := by
  have P := (RU.spec_laws sep limit ke hsep).prog
  exact calls_prefix (copyIface_sim (RU.refines sep limit ke hsep) P maxRecv) P (fun _ _ _ _ => hmax) Consumer.new
    .new script calls

/-- **Whole connection, separator-framed serializers, buffered path** (`|separator| ≤ limit`): same statement as
    `C03_connection_sep_copy` for the buffer-filling consumer, whatever sizes the transport fills. -/
theorem C03_connection_sep_buffered (sep : Bytes) (cap : Nat) (ke : Bool) (hsep : sep ≠ []) (hcap : sep.length ≤ cap)
    (script : List TEv) (calls : List Bool) :
    items (EP.calls (bufIface BRU.init 0 cap (BRU.feed true sep ke)) ⟨BufConsumer.new, false, script, [], 0⟩ calls).2
      <+: (refRun (BRU.spec sep cap ke) []
            (EP.calls (bufIface BRU.init 0 cap (BRU.feed true sep ke)) ⟨BufConsumer.new, false, script, [], 0⟩ calls).1.reads).2 := by
  have hpos : 0 < sep.length := List.length_pos_iff.mpr hsep
  have P := (BRU.spec_laws sep cap ke hsep).prog
  exact calls_prefix (bufIface_sim cap (BRU.refines sep cap ke hsep) (by omega)) P
    (fun _ _ hrel hdec => BRU.room_pos_of_idle sep cap ke hsep hcap hrel (decodeW_idle P hdec))
    BufConsumer.new (.new cap) script calls

/-- non-vacuity: CRLF stream cut inside a separator, a would-block in the middle, peer closes inside the third frame;
    five calls: a timeout, two packets, end-of-stream twice (the trailing `c` is never delivered) -/
example :
    (EP.calls (copyIface RU.init (RU.feed [13, 10] 16 false) 4) ⟨Consumer.new, false,
        [.data [97, 13], .block, .data [10, 98, 13, 10, 99], .eof], [], 0⟩ [false, false, false, false, false]).2
      = [.timeout, .item (.frame [97]), .item (.frame [98]), .eos, .eos] := by
  decide +kernel

end EasyNet

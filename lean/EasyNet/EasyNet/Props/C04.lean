/-
  C04 — send_packet writes exactly the packet's bytes and always terminates.
  Property theorems only (helper lemmas live in EasyNet/Lemmas/{Time,TimeMachines,SendData,Client}.lean).

  The model (EasyNet/Model/{Retry,Send}.lean) is tied to the Python source by the correspondence check.
  `sendPacket tr fix iov ri chunks t sock w` is `endpoint.send_packet(packet, timeout=t)` on transport kind `tr`
  (socket with sendmsg / without sendmsg / TLS socket), `chunks` = what the serializer produces for the packet,
  `sock` = what the socket answers call after call (partial writes `sent n`, EAGAIN/EINTR/SSL want-read or want-write,
  errors), `w.sel` = what select() answers, `fix = true` = `adjust_leftover_buffer` with docs/C04-fix-1.patch.
  Every theorem quantifies over ALL chunk lists (empty chunks anywhere), scripts, timeouts and retry intervals.
  A run on a prefix of a script is the state of the longer run at that step, so "for every script" includes
  "at every step".
-/
import EasyNet.Lemmas.Client
namespace EasyNet

/-- **C04, never duplicates, reorders or invents bytes.**  Whatever the socket does (any pattern of partial writes,
    would-block results, errors), with or without the fix, the bytes on the wire are a prefix of the concatenation
    of the chunks — at every step. -/
theorem C04_prefix (tr : Transport) (fix : Bool) (iov : Int) (ri : Tmo) (chunks : List Bytes) (t : Tmo)
    (sock : List SockCall) (w : World) :
    ∃ X, X <+: chunks.flatten ∧ (sendPacket tr fix iov ri chunks t sock w).2.wire = w.wire ++ X :=
  let ⟨X, hX, hw, _⟩ := sendPacket_sent tr fix iov ri chunks t sock w
  ⟨X, hX, hw⟩

/-- **C04, exactly the packet's bytes.**  If the call returns normally the wire holds exactly the concatenation of
    the chunks, in order and once. -/
theorem C04_exact (tr : Transport) (fix : Bool) (iov : Int) (ri : Tmo) (chunks : List Bytes) (t : Tmo)
    (sock : List SockCall) (w : World)
    (hok : (sendPacket tr fix iov ri chunks t sock w).1 = .ok) :
    (sendPacket tr fix iov ri chunks t sock w).2.wire = w.wire ++ chunks.flatten := by
  obtain ⟨X, _, hw, hX⟩ := sendPacket_sent tr fix iov ri chunks t sock w
  rw [hw, hX hok]

/-- non-vacuity: three chunks with an empty one in the middle and one at the end, a partial write that stops at a
    chunk boundary, a would-block, a select — the call returns and the wire is the concatenation -/
example : (sendPacket .sendmsg true 1024 (some 2) [[1, 2], [], [3], []] (some 5)
    [⟨.sent 2, 0⟩, ⟨.eagain, 1⟩, ⟨.sent 7, 0⟩] { sel := [.ready 1] }).1 = .ok ∧
    (sendPacket .sendmsg true 1024 (some 2) [[1, 2], [], [3], []] (some 5)
    [⟨.sent 2, 0⟩, ⟨.eagain, 1⟩, ⟨.sent 7, 0⟩] { sel := [.ready 1] }).2.wire = [1, 2, 3] := by
  decide +kernel

/-- **C04, progress: the call cannot spin.**  With the repaired `adjust_leftover_buffer`, for every chunk list
    (empty chunks anywhere), every transport kind, every `SC_IOV_MAX` and every script in which a successful send of
    at least one offered byte reports at least one byte: the number of socket calls the operation makes is at most
    |data| + (number of select() waits) + 2.  Every call beyond the first either puts a byte on the wire or is
    followed by a wait. -/
theorem C04_progress (tr : Transport) (iov : Int) (ri : Tmo) (chunks : List Bytes) (t : Tmo)
    (sock : List SockCall) (w : World) (hlaw : SentPos sock) :
    (sendPacket tr true iov ri chunks t sock w).2.ncall + w.nsel ≤
      w.ncall + (sendPacket tr true iov ri chunks t sock w).2.nsel + chunks.flatten.length + 2 :=
  (sendPacket_counted tr iov ri chunks t sock w hlaw).calls

/-- non-vacuity of the law + the bound is tight up to the constant: two chunks, one would-block -/
example : SentPos [⟨.sent 1, 0⟩, ⟨.eagain, 0⟩, ⟨.sent 5, 2⟩] := by
  intro c hc n hn
  simp only [List.mem_cons, List.mem_nil_iff, or_false] at hc
  rcases hc with rfl | rfl | rfl <;> simp_all <;> omega

/-- the shipped code (`fix = false`) does NOT have this property: `[b"abc", b""]` makes it use up any number of
    socket answers (here 40) without ever ending — finding F2 -/
example : (sendPacket .sendmsg false 1024 none [[97, 98, 99], []] (some 1)
    (List.replicate 40 ⟨.sent 100000, 0⟩) { sel := [] }).1 = .exhaustedSock ∧
    (sendPacket .sendmsg true 1024 none [[97, 98, 99], []] (some 1)
    (List.replicate 40 ⟨.sent 100000, 0⟩) { sel := [] }).1 = .ok := by
  decide +kernel

/-- **C04, termination.**  The operation ends by itself — returns, or raises TimeoutError / a connection error:
    it never uses up an environment that still has |data| + (number of select answers) + 3 socket answers to give. -/
theorem C04_terminates (tr : Transport) (iov : Int) (ri : Tmo) (chunks : List Bytes) (t : Tmo)
    (sock : List SockCall) (w : World) (hlaw : SentPos sock)
    (hlen : chunks.flatten.length + w.sel.length + 2 < sock.length) :
    (sendPacket tr true iov ri chunks t sock w).1 ≠ .exhaustedSock := by
  intro hex
  obtain ⟨h1, h2, h3⟩ := sendPacket_counted tr iov ri chunks t sock w hlaw
  have := h2 hex
  omega

example : ([[1, 2], [], [3]] : List Bytes).flatten.length + ({ sel := [.ready 1] } : World).sel.length + 2 <
    (List.replicate 7 (⟨.sent 1, 0⟩ : SockCall)).length := by decide

/-- **C04, within the time budget.**  With a finite timeout `tv`: the time spent waiting in select() is at most `tv`;
    the virtual time the call takes is exactly waiting + select over-sleep + processing time of the socket calls,
    hence at most `tv` + over-sleep + processing; a zero timeout never waits; and TimeoutError is only raised once
    `tv` ticks have elapsed. -/
theorem C04_terminates_within_budget (tr : Transport) (fix : Bool) (iov : Int) (ri : Tmo) (chunks : List Bytes)
    (tv : Nat) (sock : List SockCall) (w : World) :
    (sendPacket tr fix iov ri chunks (some tv) sock w).2.waited ≤ w.waited + tv ∧
    (sendPacket tr fix iov ri chunks (some tv) sock w).2.now + (w.waited + w.over + w.proc) =
      w.now + ((sendPacket tr fix iov ri chunks (some tv) sock w).2.waited +
               (sendPacket tr fix iov ri chunks (some tv) sock w).2.over +
               (sendPacket tr fix iov ri chunks (some tv) sock w).2.proc) ∧
    (tv = 0 → (sendPacket tr fix iov ri chunks (some tv) sock w).2.nsel = w.nsel) ∧
    ((sendPacket tr fix iov ri chunks (some tv) sock w).1 = .timeout →
      w.now + tv ≤ (sendPacket tr fix iov ri chunks (some tv) sock w).2.now) := by
  have h := sendPacket_good tr fix iov ri chunks tv sock w
  exact ⟨h.budget, h.elapsed, fun h0 => h.zero (by omega), fun ht => h.spent (congrArg Outcome.isTimeout ht)⟩

/-- non-vacuity: a send that runs out of budget after two retry-interval wake-ups and one expiry -/
example : (sendPacket .tls true 1024 (some 2) [[1, 2, 3, 4]] (some 5)
    [⟨.sent 2, 1⟩, ⟨.wantW, 0⟩, ⟨.wantR, 0⟩, ⟨.wantW, 0⟩] { sel := [.expired 0, .expired 0, .expired 0] }).1 = .timeout := by
  decide +kernel

end EasyNet

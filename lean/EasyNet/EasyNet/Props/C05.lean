/-
  C05 — Datagrams: one packet per datagram, boundaries preserved, errors isolated.  Property theorems only.
-/
import EasyNet.Lemmas.Datagram
import EasyNet.Props.C01
namespace EasyNet
open EasyNet.C05

/-- **Pointwise.**  The result for the i-th datagram depends on the i-th datagram only: the receive function carries no
    state (it is a `map`), so datagrams are never merged, split or carried over and a malformed one affects no other. -/
theorem C05_pointwise {σ} (init : σ) (feed : σ → Bytes → Res σ) (ds₁ ds₂ : List Bytes) (d : Bytes) :
    dgRecv init feed (ds₁ ++ d :: ds₂) = dgRecv init feed ds₁ ++ oneShot init feed d :: dgRecv init feed ds₂ ∧
    (dgRecv init feed (ds₁ ++ d :: ds₂)).length = (ds₁ ++ d :: ds₂).length := by
  constructor
  · simp [dgRecv]
  · simp [dgRecv]

/-- **Errors isolated, stated as a replacement law.**  Replace the i-th datagram by *any* other byte string (a malformed
    one, an empty one, two frames glued together): every other position of the result list is unchanged, and the
    replaced position is decided by the replacement alone.  So a malformed datagram costs exactly one error at its own
    position and can neither swallow nor duplicate a neighbour. -/
theorem C05_replace_isolated {σ} (init : σ) (feed : σ → Bytes → Res σ) (ds₁ ds₂ : List Bytes) (d d' : Bytes) :
    dgRecv init feed (ds₁ ++ d' :: ds₂) = (dgRecv init feed (ds₁ ++ d :: ds₂)).set ds₁.length (oneShot init feed d') ∧
    (∀ i, i ≠ ds₁.length → (dgRecv init feed (ds₁ ++ d' :: ds₂))[i]? = (dgRecv init feed (ds₁ ++ d :: ds₂))[i]?) := by
  have hset : dgRecv init feed (ds₁ ++ d' :: ds₂)
      = (dgRecv init feed (ds₁ ++ d :: ds₂)).set ds₁.length (oneShot init feed d') := by
    have hl : ds₁.length = (List.map (oneShot init feed) ds₁).length := by simp
    simp only [dgRecv, List.map_append, List.map_cons]
    rw [hl, List.set_append_right _ _ (Nat.le_refl _)]
    simp
  refine ⟨hset, ?_⟩
  intro i hi
  rw [hset, List.getElem?_set_ne (Ne.symm hi)]

/-- non-vacuity of the replacement law on the separator framer: the middle datagram is replaced by a truncated frame -/
example : dgRecv RU.init (RU.feed [10] 8 false) [[97, 10], [98], [99, 10]] = [.ok [97], .missing, .ok [99]] ∧
    dgRecv RU.init (RU.feed [10] 8 false) [[97, 10], [98, 10], [99, 10]] = [.ok [97], .ok [98], .ok [99]] := by
  decide +kernel

/-- **One-shot interface derived from the incremental one** (the default `deserialize` of incremental serializers):
    a datagram is accepted exactly when it is one complete frame and nothing else; a frame and a half, or two frames,
    is *one* error, never two packets. -/
theorem C05_oneshot_of_incremental {σ} {init : σ} {feed : σ → Bytes → Res σ} {spec : Bytes → SRes}
    {Inv : σ → Bytes → Prop} (R : Refines init feed spec Inv) (data d : Bytes) :
    oneShot init feed data = .ok d ↔ spec data = .done d [] := by
  rw [oneShot_eq R]
  cases spec data with
  | done d' r => cases r <;> simp
  | _ => simp

/-- **Round trip** through the default one-shot interface of a separator-framed serializer: the datagram produced for a
    valid payload (`payload ++ separator`, the join of the incremental chunks) deserializes to that payload;
    two frames in one datagram, or a truncated frame, are rejected. -/
theorem C05_default_oneshot_roundtrip (sep : Bytes) (limit : Nat) (ke : Bool) (hsep : sep ≠ []) (p q : Bytes)
    (hp : ValidPayload sep limit p) (hq : ValidPayload sep limit q) :
    oneShot RU.init (RU.feed sep limit ke) (p ++ sep) = .ok (if ke then p ++ sep else p) ∧
    oneShot RU.init (RU.feed sep limit ke) (p ++ sep ++ (q ++ sep)) = .extra ∧
    oneShot RU.init (RU.feed sep limit ke) p = .missing := by
  have R := RU.refines sep limit ke hsep
  have hpos : 0 < sep.length := List.length_pos_iff.mpr hsep
  refine ⟨?_, ?_, ?_⟩
  · have h := RU.spec_frame sep limit ke hsep p [] hp
    rw [List.append_nil] at h
    rw [oneShot_eq R, h]
    rfl
  · rw [oneShot_eq R, RU.spec_frame sep limit ke hsep p (q ++ sep) hp]
    cases sep with
    | nil => exact absurd rfl hsep
    | cons x xs => cases q <;> rfl
  · -- a payload alone holds no separator and is within the limit: incomplete
    rw [oneShot_eq R, RU.spec_eq, sepSpec_of_none (firstOcc_payload_none sep p hsep hp.1),
      if_neg (by have := hp.2; simp only [decide_eq_true_eq]; omega)]

/-- **Asyncio datagram endpoint queue: FIFO, nothing lost, nothing duplicated.**  For every interleaving of
    `datagram_received`, `error_received`, `connection_lost`, `close` and `recvfrom` calls: the datagrams returned so far,
    followed by those still queued, are exactly the datagrams the protocol accepted, in arrival order —
    error wake-ups in between consume no datagram. -/
theorem C05_queue_fifo (evs : List DEv) :
    gots (DQ.run {} evs).2 ++ queued (DQ.run {} evs).1 = accepted {} evs := by
  have := run_conserve evs {}
  simpa [queued] using this

example : (DQ.run {} [.dgram [1], .error 7, .dgram [2], .recv, .recv, .recv, .recv]).2
    = [.none, .none, .none, .got [1], .exc 7, .got [2], .wait] := by decide

example : ValidPayload [10] 8 [97, 98] := by decide +kernel

section GenericFramers
open GenericFr

/-- **C05, one-shot `deserialize` of the file-based serializers.**  A datagram is accepted exactly when the loader
    returns a packet having read the datagram up to its last byte; so a datagram holding a frame and a half, or two
    frames, is *one* error (`extra`), a truncated frame is one error (`missing`), a rejected frame is one error
    (`invalid`) — never two packets, never a carried-over remainder (the result type has no remainder). -/
theorem C05_generic_oneshot (load : Bytes → LoadRes) (S : Stable load) (d : Bytes) :
    (GenericFr.deserialize load d = .pkt ↔ load d = .ok d.length) ∧
    (∀ f g : Bytes, IsFrame load f → load f = .ok f.length → g ≠ [] → GenericFr.deserialize load (f ++ g) = .extra) ∧
    (∀ (f : Bytes) (n : Nat), IsFrame load f → n < f.length → GenericFr.deserialize load (f.take n) = .missing) ∧
    (∀ f : Bytes, load f = .bad f.length → GenericFr.deserialize load f = .invalid) := by
  refine ⟨?_, ?_, ?_, ?_⟩
  · unfold GenericFr.deserialize
    cases hl : load d with
    | eof => exact ⟨nofun, nofun⟩
    | bad k => exact ⟨nofun, nofun⟩
    | ok k =>
      have he := GenericFr.drop_isEmpty_iff (S.ok_le d k hl)
      dsimp only
      refine ⟨fun h => ?_, fun h => ?_⟩
      · split at h
        · rw [he.mp ‹_›]
        · cases h
      · cases h; exact if_pos (he.mpr rfl)
  · intro f g hf hok hg
    unfold GenericFr.deserialize
    rw [S.ok_ext f g _ hok]
    dsimp only
    rw [List.drop_left, if_neg (by rw [List.isEmpty_iff]; exact hg)]
  · intro f n hf hn
    unfold GenericFr.deserialize
    rw [hf.prefix_eof n hn]
  · intro f hbad
    unfold GenericFr.deserialize
    rw [hbad]

/-- the compressor's one-shot `deserialize`: a packet exactly when the decompressor reaches end-of-stream on the last
    byte of the datagram and the wrapped serializer accepts the decompressed data -/
theorem C05_generic_compressor_oneshot (dec : Bytes → DecRes) (d : Bytes)
    (hle : ∀ k ok, dec d = .fin k ok → k ≤ d.length) :
    cdeserialize dec d = .pkt ↔ dec d = .fin d.length true := by
  unfold cdeserialize
  cases hd : dec d with
  | more => exact ⟨nofun, nofun⟩
  | corrupt => exact ⟨nofun, nofun⟩
  | fin k ok =>
    have he := GenericFr.drop_isEmpty_iff (hle k ok hd)
    dsimp only
    refine ⟨fun h => ?_, fun h => ?_⟩
    · split at h
      · cases ok
        · cases h
        · rw [he.mp ‹_›]
      · cases h
    · cases h; rw [if_pos (he.mpr rfl)]; rfl

/-- non-vacuity (toy loader): one frame / a frame and a half / two frames / a truncated frame / a bad header -/
example : GenericFr.deserialize toyLoad [2, 7, 7] = .pkt ∧ GenericFr.deserialize toyLoad [2, 7, 7, 2, 7] = .extra ∧
    GenericFr.deserialize toyLoad [2, 7, 7, 1, 9] = .extra ∧ GenericFr.deserialize toyLoad [2, 7] = .missing ∧
    GenericFr.deserialize toyLoad [255] = .invalid ∧ IsFrameD toyLoad [2, 7, 7] := by
  decide +kernel

end GenericFramers

end EasyNet

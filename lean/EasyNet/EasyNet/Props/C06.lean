/-
  C06 — Malformed network input only ever surfaces as a parse error.  Property theorems only.

  Two parts:
   (1) framing: the modelled framers/consumers are total functions (every byte string, every chunking gives a result),
       and every delivered frame or size error consumes at least one byte — hence a receive loop that skips errors
       performs at most |stream| iterations;
   (2) classification: for every codec call site of every shipped serializer and every entry point (one-shot,
       incremental, buffered), every exception class of the declared alphabet leaves the outermost layer
       (protocol object / stream consumer) as a protocol parse error.  The tables are regenerated from the Python
       source on every run (Gen/ExcTables.lean), so this theorem is re-checked against what the code says now.
-/
import EasyNet.Props.C07
import EasyNet.Gen.ExcTables
namespace EasyNet

/-- **Progress** for the three byte-level specs: a delivered frame or a size error leaves strictly fewer bytes. -/
theorem C06_progress (sep : Bytes) (limit : Nat) (ke : Bool) (hsep : sep ≠ []) (n : Nat) (hn : 0 < n) (b : Bytes) :
    (∀ d r, RU.spec sep limit ke b = .done d r → r.length < b.length) ∧
    (∀ r, RU.spec sep limit ke b = .fail r → r.length < b.length) ∧
    (∀ d r, BRU.spec sep limit ke b = .done d r → r.length < b.length) ∧
    (∀ r, BRU.spec sep limit ke b = .fail r → r.length < b.length) ∧
    (∀ d r, RE.spec n b = .done d r → r.length < b.length) := by
  have L1 := RU.spec_laws sep limit ke hsep
  have L2 := BRU.spec_laws sep limit ke hsep
  have L3 := RE.spec_laws n hn
  exact ⟨L1.progress_done b, L1.progress_fail b, L2.progress_done b, L2.progress_fail b, L3.progress_done b⟩

/-- **A skip-errors receive loop terminates**: decoding any byte string (valid or not) yields at most as many items
    (frames and size errors together) as there are bytes. -/
theorem C06_items_bounded {spec : Bytes → SRes} {ok : Bytes → Prop} (L : SpecLaws spec ok) (b : Bytes) :
    (decodeW spec b).2.length ≤ b.length := by
  have := L.prog.decodeW_length_le b
  omega

/-- the same bound on the real consumer model, for every chunking of every byte string (separator framer, copy path) -/
theorem C06_consumer_items_bounded (sep : Bytes) (limit : Nat) (ke : Bool) (hsep : sep ≠ []) (data : Bytes) :
    (Consumer.run RU.init (RU.feed sep limit ke) Consumer.new [data]).2.length ≤ data.length := by
  have := Consumer.run_length_le (RU.refines sep limit ke hsep) (RU.spec_laws sep limit ke hsep).prog [data]
  rwa [List.flatten_cons, List.flatten_nil, List.append_nil] at this

/-- **Only parse errors.**  For every generated pipeline (codec call site × entry point) and every exception class of
    its declared alphabet, what leaves the outermost layer is `StreamProtocolParseError` / `DatagramProtocolParseError`. -/
theorem C06_only_parse_errors :
    ∀ p ∈ Gen.pipelines, p.ok Gen.sub Gen.parseErrors = true := by
  decide +kernel

/-- non-vacuity: there are pipelines, none has an empty alphabet, and the check can fail (a pipeline whose innermost
    handler is missing lets the raw exception through) -/
example : Gen.pipelines.length ≥ 30 ∧ (Gen.pipelines.all (fun p => !p.alphabet.isEmpty)) = true := by decide +kernel

example : (⟨"broken", [Gen.Exc.builtins_RecursionError],
    [[⟨[Gen.Exc.json_decoder_JSONDecodeError], .convert Gen.Exc.easynetwork_exceptions_DeserializeError⟩],
     [⟨[Gen.Exc.easynetwork_exceptions_DeserializeError], .convert Gen.Exc.easynetwork_exceptions_DatagramProtocolParseError⟩]]⟩
    : Pipeline Gen.Exc).ok Gen.sub Gen.parseErrors = false := by decide +kernel

section GenericFramers
open GenericFr

/-- **C06, generic framers: progress.**  For a loader each of whose verdicts consumes at least one byte (`Progress`)
    and only bytes that were there (`ok_le`/`bad_le`), every delivered packet, parse error and size error leaves strictly
    fewer bytes than were looked at — file-based framer (with its size check) and compressor framer alike (a
    decompressor error drops everything) — hence a receive loop that skips errors performs at most |stream|
    iterations (`C06_items_bounded` applied to the limit-free spec). -/
theorem C06_generic_progress (load : Bytes → LoadRes) (S : Stable load) (P : Progress load) (limit : Nat) (b : Bytes) :
    (∀ d r, spec load limit b = .done d r → r.length < b.length) ∧
    (∀ r, spec load limit b = .fail r → r.length < b.length) ∧
    (∀ d r, specU load b = .done d r → r.length < b.length) ∧
    (decodeW (specU load) b).2.length ≤ b.length := by
  have L := specU_laws load S P
  exact ⟨(spec_prog load S P limit).progress_done b, (spec_prog load S P limit).progress_fail b, L.progress_done b,
    C06_items_bounded L b⟩

/-- the compressor framer: a decompressor error leaves nothing behind (progress whenever `b` is not empty), and an
    end-of-stream after `k ≥ 1` bytes leaves `|b| - k` -/
theorem C06_generic_compressor_progress (dec : Bytes → DecRes) (b : Bytes) :
    (dec b = .corrupt → specU (loadOf dec) b = .done (badTag :: b) []) ∧
    (∀ k ok, dec b = .fin k ok → 0 < k → k ≤ b.length →
      ∃ d r, specU (loadOf dec) b = .done d r ∧ r.length < b.length) := by
  unfold specU loadOf
  constructor
  · intro h
    rw [h]
    dsimp only
    rw [List.take_length, List.drop_length]
  · intro k ok h hk hle
    have hlt : (b.drop k).length < b.length := by
      rw [List.length_drop]; exact Nat.sub_lt (Nat.lt_of_lt_of_le hk hle) hk
    rw [h]
    cases ok <;> exact ⟨_, _, rfl, hlt⟩

/-- **What happens without `Progress`**: a loader that reports an expected error (or a packet) having consumed NOTHING
    makes the framer hand back the whole buffer as remainder — the same error (packet) is then delivered again on every
    `next(None)`, forever.  The real code does exactly this (docs/GENERICFR.md, "zero consumption"): `Progress` is a
    genuine requirement on `load_from_file`, not a proof artefact. -/
theorem C06_generic_zero_consumption_stalls (load : Bytes → LoadRes) (limit : Nat) (b : Bytes) (hb : b.length ≤ limit) :
    (load b = .bad 0 → spec load limit b = .done [badTag] b) ∧
    (load b = .ok 0 → spec load limit b = .done [okTag] b) := by
  rw [spec_eq_specU load limit b hb]
  unfold specU
  exact ⟨fun h => by rw [h]; rfl, fun h => by rw [h]; rfl⟩

/-- non-vacuity: the toy loader meets the hypotheses; a bad header costs one byte, a size error drops everything -/
example : Stable toyLoad ∧ Progress toyLoad ∧
    spec toyLoad 8 [255, 1, 9] = .done [badTag, 255] [1, 9] ∧
    spec toyLoad 4 [200, 1, 2, 3, 4] = .fail [] :=
  ⟨toyLoad_stable, toyLoad_progress, by decide +kernel, by decide +kernel⟩

end GenericFramers

/-- **C06, raw JSON framer: progress.**  For EVERY accumulated byte string (malformed soup included) and every way it was
    received: whenever `generator.send` ends with a document (`done`) or a size error (`fail`), the remainder it hands back
    is strictly shorter than everything it was sent — so a receive loop that skips errors terminates: the number of items
    delivered never exceeds the number of bytes received, under any chunking. -/
theorem C06_jraw_progress (limit : Nat) :
    (∀ (s : JRaw.State) (b c : Bytes), JRaw.Inv limit s b →
      (∀ d r, JRaw.feed limit s c = .done d r → r.length < (b ++ c).length) ∧
      (∀ r, JRaw.feed limit s c = .fail r → r.length < (b ++ c).length)) ∧
    (∀ chunks : List Bytes,
      (Consumer.run JRaw.init (JRaw.feed limit) Consumer.new chunks).2.length ≤ chunks.flatten.length) :=
  ⟨JRaw.feed_progress limit, Consumer.run_length_le (JRaw.refines limit) (JRaw.spec_prog limit)⟩

/-- non-vacuity: soup starting with a closer; the generator ends at once and hands back the rest -/
example : (JRaw.feed 8 JRaw.init [125, 93, 0, 34]).erase = .done [125] [93, 0, 34] ∧ JRaw.Inv 8 JRaw.init [] :=
  ⟨by decide +kernel, JRaw.inv_init 8⟩

end EasyNet

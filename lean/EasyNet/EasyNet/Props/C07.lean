/-
  C07 — Receive buffering is bounded by the configured limit.  Property theorems only.
-/
import EasyNet.Props.C02
namespace EasyNet

/-- **C07, separator framers, copying path: bound.**  After every read — for every chunking of every byte stream,
    terminated or not — the bytes retained by the consumer number at most `limit + |sep| - 1`
    (so at most `limit + |sep| - 1 +` one read while a read is being processed). -/
theorem C07_sep_copy_bound (sep : Bytes) (limit : Nat) (ke : Bool) (hsep : sep ≠ []) (chunks : List Bytes) :
    (Consumer.held (·.buf) (Consumer.run RU.init (RU.feed sep limit ke) Consumer.new chunks).1).length
      ≤ limit + sep.length - 1 := by
  have hpos : 0 < sep.length := List.length_pos_iff.mpr hsep
  -- what is retained is empty, or data on which the spec still waits: then the overrun test has not fired
  rcases Consumer.run_held (acc := (·.buf)) (RU.refines sep limit ke hsep) (RU.spec_laws sep limit ke hsep).prog (RU.inv_buf sep limit)
    chunks with h | h
  · rw [h]; exact Nat.zero_le _
  · rw [RU.spec_eq] at h
    have := of_decide_eq_false (sepSpec_need h).2
    omega

/-- **C07, copying path: the error is raised.**  Unterminated data of `limit + |sep|` bytes or more is never
    silently accumulated: looking at it yields a size error. -/
theorem C07_sep_copy_overrun_raises (sep : Bytes) (limit : Nat) (ke : Bool) (b : Bytes)
    (hnone : firstOcc sep b = none) (hlen : limit + sep.length ≤ b.length) :
    ∃ r, RU.spec sep limit ke b = .fail r := by
  rw [RU.spec_eq, sepSpec_of_none hnone, if_pos (by simp only [decide_eq_true_eq]; omega)]
  exact ⟨_, rfl⟩

/-- **C07, copying path: no false rejection.**  A well-delimited frame whose payload is at most `limit` bytes is
    delivered, never rejected for its size (exact: rejected iff `|payload| > limit`). -/
theorem C07_sep_copy_no_false_reject (sep : Bytes) (limit : Nat) (ke : Bool) (hsep : sep ≠ []) (p rest : Bytes)
    (hfirst : firstOcc sep (p ++ sep) = some p.length) :
    (p.length ≤ limit → RU.spec sep limit ke (p ++ sep ++ rest) = .done (if ke then p ++ sep else p) rest) ∧
    (p.length > limit → ∃ r, RU.spec sep limit ke (p ++ sep ++ rest) = .fail r) := by
  rw [RU.spec_eq, sepSpec_frame hsep p rest hfirst]
  exact ⟨fun hle => if_neg (by simpa using hle), fun hgt => ⟨rest, if_pos (by simpa using hgt)⟩⟩

example : firstOcc [13, 10] (([97, 98, 99] : Bytes) ++ [13, 10]) = some 3 := by decide +kernel

/-- **C07, buffered path: bound.**  After any history of fitting fills the buffer-filling consumer owns a buffer of
    exactly `cap` bytes (or none yet) and retains at most `cap` bytes — whatever the peer sends. -/
theorem C07_sep_buffered_bound (sep : Bytes) (cap : Nat) (ke : Bool) (hsep : sep ≠ []) (hcap : 0 < cap)
    (fills : List Bytes) (r : BufConsumer BRUState × List Item)
    (hrun : BufConsumer.runFills BRU.init 0 cap (BRU.feed true sep ke) BufConsumer.new fills = some r) :
    (r.1.buffer.length = 0 ∨ r.1.buffer.length = cap) ∧
    ∃ h : Bytes, BufConsumer.Rel (·.buflen) (BRU.spec sep cap ke) (BRU.Inv sep cap) cap r.1 h ∧ h.length ≤ cap := by
  have hrel := (BufConsumer.runFills_ref (BRU.refines sep cap ke hsep) hcap fills _ [] (.new cap) r hrun).2
  exact ⟨hrel.bounds.1, _, hrel, hrel.bounds.2⟩

/-- **C07, buffered path: the error is raised** no later than when unterminated data fills the buffer up to its
    last byte but one. -/
theorem C07_sep_buffered_overrun_raises (sep : Bytes) (cap : Nat) (ke : Bool) (b : Bytes)
    (hnone : firstOcc sep b = none) (hsl : sep.length ≤ b.length) (hlen : cap ≤ b.length + 1) :
    ∃ r, BRU.spec sep cap ke b = .fail r := by
  rw [BRU.spec_eq, sepSpec_of_none hnone, if_pos (by simp only [decide_eq_true_eq]; omega)]
  exact ⟨_, rfl⟩

/-- **C07, buffered path: no false rejection** — frames with `|payload| + |sep| < cap` are delivered under every
    fill history (this is `C01_sep_buffered_roundtrip`; restated here for one frame followed by anything). -/
theorem C07_sep_buffered_no_false_reject (sep : Bytes) (cap : Nat) (ke : Bool) (hsep : sep ≠ []) (p rest : Bytes)
    (hfirst : firstOcc sep (p ++ sep) = some p.length) :
    BRU.spec sep cap ke (p ++ sep ++ rest) = .done (if ke then p ++ sep else p) rest :=
  BRU.spec_frame sep cap ke hsep p rest hfirst

section GenericFramers
open GenericFr

/-- **C07, file-based framers: bound** — for EVERY loader (no law needed), every peer and every chunking:
    (1) looking at more than `limit` accumulated bytes raises the size error, at that very read, and drops them all;
    (2) between reads the copying consumer retains at most `limit` bytes — hence at most `limit` + the read in progress
        while a read is processed;
    (3) the buffered path allocates `min(sizehint, limit) ≤ limit` bytes, never more. -/
theorem C07_generic_bound (load : Bytes → LoadRes) (limit : Nat) :
    (∀ b : Bytes, b.length > limit → spec load limit b = .fail []) ∧
    (∀ s c, GenericFr.Inv s c → ∀ chunk : Bytes, (c ++ chunk).length > limit → feed load limit s chunk = .fail []) ∧
    (∀ chunks : List Bytes,
      (Consumer.held (·.buf) (Consumer.run GenericFr.init (feed load limit) Consumer.new chunks).1).length ≤ limit) ∧
    (∀ hint, bufCap limit hint ≤ limit ∧ bufCap limit hint ≤ hint) := by
  refine ⟨?_, ?_, ?_, ?_⟩
  · exact spec_of_gt load limit
  · intro s c hinv chunk hlen
    unfold feed gfeed
    rw [appended_inv s c chunk hinv]
    unfold attempt checkLimit
    rw [if_pos hlen]
    simp only [GRes.toRes, limitRemainder_all]
  · intro chunks
    rw [(Consumer.run_ref (feed_refines load limit) chunks Consumer.new [] .new).2.held_eq fun _ _ h => h.1]
    exact refRun_held_le load limit chunks [] (Nat.zero_le _)
  · exact fun hint => ⟨Nat.min_le_right _ _, Nat.min_le_left _ _⟩

/-- **C07, file-based framers: no false rejection.**  Frames with `|frame| + largest read ≤ limit + 1` — in particular
    those of the table row "file-based / generic: `|frame| + largest read ≤ limit`" — are never rejected for their size,
    whatever the chunking, on both receive paths.  The bound is exact: with `|frame| + read = limit + 2` a read arriving
    when all but the last byte of the frame is held accumulates `limit + 1` bytes. -/
theorem C07_generic_no_false_reject (load : Bytes → LoadRes) (S : Stable load) (P : Progress load)
    (limit m hint : Nat) (hlimit : 0 < limit) (hhint : 0 < hint)
    (fs : List Bytes) (hfs : ∀ f ∈ fs, IsFrame load f) :
    (∀ chunks : List Bytes, (∀ f ∈ fs, f.length + m ≤ limit + 1) → (∀ c ∈ chunks, c.length ≤ m) → chunks.flatten = fs.flatten →
      NoLimit (Consumer.run GenericFr.init (feed load limit) Consumer.new chunks).2) ∧
    (∀ (fills : List Bytes) (r : BufConsumer GenericFr.State × List Item),
      (∀ f ∈ fs, f.length + bufCap limit hint ≤ limit + 1) → fills.flatten = fs.flatten →
      BufConsumer.runFills GenericFr.init 0 (bufCap limit hint) (bfeed load limit) BufConsumer.new fills = some r →
      NoLimit r.2) := by
  constructor
  · intro chunks hsafe hm hcut
    rw [(copy_run_frames load S P limit m fs hfs hsafe chunks hm hcut).1]
    exact noLimit_frames load fs
  · intro fills r hsafe hcut hrun
    rw [(buffered_run_frames load S P limit hint hlimit hhint fs hfs hsafe fills hcut r hrun).1]
    exact noLimit_frames load fs

/-- **The table row is tight, and acceptance just outside depends on the chunking** (toy loader, limit 8): a complete
    frame of 8 bytes ≤ limit followed by a 2-byte frame.  Read frame by frame, both are delivered; when the first read
    also carries the first byte of the next frame (9 bytes accumulated > 8) the complete frame IS rejected — the check is
    on everything accumulated — and everything received so far is dropped (third line: the same on the buffered path, where
    one fill cannot exceed the 8-byte buffer but held bytes + a fill can). -/
example : IsFrameD toyLoad [7, 1, 2, 3, 4, 5, 6, 7] ∧ IsFrameD toyLoad [1, 9] ∧
    (Consumer.run GenericFr.init (feed toyLoad 8) Consumer.new [[7, 1, 2, 3, 4, 5, 6, 7], [1, 9]]).2
      = [.frame (okTag :: [7, 1, 2, 3, 4, 5, 6, 7]), .frame (okTag :: [1, 9])] ∧
    (Consumer.run GenericFr.init (feed toyLoad 8) Consumer.new [[7, 1, 2, 3, 4, 5, 6, 7, 1], [9]]).2 = [.limit] ∧
    (BufConsumer.runFills GenericFr.init 0 (bufCap 8 16) (bfeed toyLoad 8) BufConsumer.new
        [[7, 1, 2, 3], [4, 5, 6, 7, 1], [9]]).map (·.2) = some [.limit] := by
  decide +kernel

end GenericFramers

/-- **C07, raw JSON framer: bound.**  After every read — for every byte stream and every chunking, complete documents or
    not — the copying consumer retains at most `limit` bytes (so at most `limit` + one read while a read is being
    processed); and the error is raised at the first read boundary at which the accumulated bytes of an incomplete document
    (leading whitespace included) exceed `limit`: the generator then ends with `LimitOverrunError` and an empty remainder. -/
theorem C07_jraw_bound (limit : Nat) :
    (∀ chunks : List Bytes,
      (Consumer.held (·.doc) (Consumer.run JRaw.init (JRaw.feed limit) Consumer.new chunks).1).length ≤ limit) ∧
    (∀ (s : JRaw.State) (b c : Bytes) (st : JRaw.SSt), JRaw.Inv limit s b →
      JRaw.sscan .lead 0 (b ++ c) = .opened st → limit < (b ++ c).length → JRaw.feed limit s c = .fail []) := by
  refine ⟨JRaw.run_held_le limit, fun s b c st hinv hopen hlen => ?_⟩
  have h := (JRaw.feed_spec limit s b c hinv).1
  rw [JRaw.spec_opened hopen, if_pos hlen] at h
  cases hf : JRaw.feed limit s c <;> rw [hf] at h <;> cases h
  rfl

/-- non-vacuity of the second part: a string that never closes, limit 4, five bytes received -/
example : JRaw.Inv 4 JRaw.init [] ∧ JRaw.sscan .lead 0 ([] ++ [34, 97, 97, 97, 97]) = .opened (.encl 34 true 0 0 false) := by
  exact ⟨JRaw.inv_init 4, by decide +kernel⟩

/-- **C07, raw JSON framer: no false rejection, exact threshold.**  A stream of well-delimited documents each at most
    `limit` bytes long (plain values: the value without its terminator) followed by an incomplete tail within the limit never
    yields a size error, under any chunking; and a document that the scanner closes on its last byte is rejected, wherever
    it ends up in a buffer, as soon as it is longer than `limit` (`|document| ≤ limit` is exact). -/
theorem C07_jraw_no_false_reject (limit : Nat) :
    (∀ (docs : List JRaw.Doc) (tail : Bytes) (chunks : List Bytes), (∀ d ∈ docs, d.ok limit) →
      (JRaw.TailOk limit tail ∨ tail = []) → chunks.flatten = (docs.map JRaw.Doc.bytes).flatten ++ tail →
      NoLimit (Consumer.run JRaw.init (JRaw.feed limit) Consumer.new chunks).2) ∧
    (∀ (f x : Bytes), JRaw.sscan .lead 0 f = .closed f.length → limit < f.length →
      ∃ r, JRaw.spec limit (f ++ x) = .fail r) := by
  refine ⟨fun docs tail chunks hok htail hcut => ?_, fun f x hscan hlen => ?_⟩
  · rw [(JRaw.run_docs limit docs hok tail (.of_ok_or_nil htail) chunks hcut).1]
    intro it hit
    obtain ⟨d, _, rfl⟩ := List.mem_map.mp hit
    nofun
  · rw [JRaw.spec_closed (JRaw.sscan_append_closed hscan x)]
    exact (JRaw.splitS_fail_iff _ _ _).mpr hlen

/-- non-vacuity: a 6-byte array at limit 6 is accepted, at limit 5 it is a document the second part rejects -/
example : (JRaw.Doc.encl [91, 49, 44, 32, 50, 93]).ok 6 ∧ JRaw.sscan .lead 0 [91, 49, 44, 32, 50, 93] = .closed 6 := by
  decide +kernel

end EasyNet

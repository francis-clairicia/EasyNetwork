/-
  C08 — TLS transport is a transparent, encrypted byte stream.
  Property theorems only (model: EasyNet/Model/Tls08.lean, lemmas: EasyNet/Lemmas/Tls08*.lean).

  The model is the step machine `EasyNet.C08.step` of AsyncTLSStreamTransport's wrapper logic: any number of tasks, each
  between two awaits of `_retry_ssl_method`; the SSL object is an arbitrary `Engine` (any state type, any transition
  function); an event list is a schedule (which task calls what, which awaited lock / send_all / recv_into completes when
  and with what: every fragmentation of the ciphertext, every interleaving of the two directions, injected OSError).
  `run E (St.init e compat) evs = some s` says every event was enabled when it happened.

  The machine mirrors the code WITH docs/C08-fix-2.patch (`St.init` has `wrPolicy := .pendingNoWaiter`): in the WANT_READ
  branch the send lock is taken only if the outgoing BIO holds bytes and no other task is already queued for that lock.
  The two earlier versions of that branch (`WrPolicy.always` = no fix, `WrPolicy.pending` = docs/C08-fix-1.patch only) are
  kept as variants for the negative theorems at the end of this file.
-/
import EasyNet.Lemmas.Tls08Laws
import EasyNet.Lemmas.Tls08Duplex
import EasyNet.Lemmas.Tls08Pair
namespace EasyNet.C08
open EasyNet

/-- a scripted run used by the non-vacuity examples.  Task 0 does the handshake (WANT_READ, 2 bytes of ciphertext, done);
    task 2 sends the chunks "abc","de": WANT_READ on the first write (flush, wait for input, 1 byte arrives, retry), then a
    partial write of 2, then the rest; task 1 reads 2 bytes. -/
def exLog : List (CallKind × Resp) :=
  [ (.handshake, { out := .wantRead, cout := [9, 9, 9] }), (.handshake, { out := .ok 0, cin := 2, cout := [8] }),
    (.write, { out := .wantRead }), (.write, { out := .ok 2, cin := 1, cout := [7, 7] }), (.write, { out := .ok 1, cout := [7] }),
    (.write, { out := .ok 2, cout := [6, 6, 6] }), (.read, { out := .ok 2, data := [120, 121] }) ]

def exEvs : List Ev :=
  [ .call 0 .handshake, .resume 0 .ok, .resume 0 (.data [1, 2]), .resume 0 .ok,
    .call 2 (.sendIter [[97, 98, 99], [100, 101]]), .resume 2 (.data [3]), .resume 2 .ok, .call 1 (.recv 2) ]

end EasyNet.C08

namespace EasyNet
open EasyNet.C08

/-- **C08, nothing dropped or duplicated on the write path.**  For every engine (every script of `ssl.write` outcomes:
    partial writes, WANT_READ / WANT_WRITE at any call, errors), every number of tasks and every schedule: the bytes
    accepted by `ssl.write`, followed by what is still in `_data_deque`, are exactly the bytes handed to
    `send_all` / `send_all_from_iterable`, in call order.  And whenever a task's write loop ran to its end (the only way a
    send call can return normally), `|accepted| ≥` the number of bytes written up to and including that call:
    `(t, mark, |accepted|) ∈ completed → mark ≤ |accepted|`. -/
theorem C08_write_exactly_once {σ : Type} (E : Engine σ) (e : σ) (compat : Bool) (evs : List Ev) (s : St σ)
    (h : run E (St.init e compat) evs = some s) :
    s.accepted ++ untag s.deque.flatten = untag s.written ∧
    (∀ x ∈ s.completed, x.2.1 ≤ x.2.2) ∧ (∀ t, s.mark t ≤ s.written.length) := by
  have := run_closed (MInv.closed E) evs _ s (MInv.init e compat) h
  exact ⟨this.g.once, this.comp, this.mark⟩

example : (run scriptEngine (St.init exLog true) exEvs).map (fun s => (s.accepted, untag s.written, s.returned)) =
    some ([97, 98, 99, 100, 101], [97, 98, 99, 100, 101], [120, 121]) := by decide +kernel
example : (run scriptEngine (St.init exLog true) exEvs).map (fun s => (s.deque, s.completed)) = some ([], [(2, 5, 5)]) := by
  decide +kernel

/-- the statement is not void: the seeded write loop (`popleft` before the write, `appendleft` only after a partial write)
    loses the chunk when `write` raises WANT_READ, the real one keeps it -/
example :
    ((writeLoopPop scriptEngine 0 [tag .plain [1, 2]]
        { (St.init [(CallKind.write, ({ out := .wantRead } : Resp))] true) with written := tag .plain [1, 2] }).1.deque,
     (writeLoop scriptEngine 0 [tag .plain [1, 2]]
        { (St.init [(CallKind.write, ({ out := .wantRead } : Resp))] true) with written := tag .plain [1, 2] }).1.deque)
    = ([], [tag .plain [1, 2]]) := by decide +kernel

/-- **C08, provenance.**  Every byte passed to the wrapped transport's `send_all` came out of the outgoing BIO; what is
    pending in the BIO came from the engine; `_data_deque` only ever holds application bytes (which go nowhere but into
    `ssl.write`, see `writeLoop`); and the payloads, in call order, followed by what is still pending, are exactly the bytes
    the engine emitted — none lost, duplicated or reordered. -/
theorem C08_provenance {σ : Type} (E : Engine σ) (e : σ) (compat : Bool) (evs : List Ev) (s : St σ)
    (h : run E (St.init e compat) evs = some s) :
    (∀ p ∈ s.xmits, ∀ b ∈ p, b.1 = Org.bio) ∧ (∀ b ∈ s.wbio, b.1 = Org.bio) ∧
    (∀ c ∈ s.deque, ∀ b ∈ c, b.1 = Org.plain) ∧ s.xmits.flatten ++ s.wbio = s.outAll := by
  have := G1.run h
  exact ⟨this.xmitBio, this.wbioBio, this.dqPlain, this.outs⟩

example : (run scriptEngine (St.init exLog true) exEvs).map (fun s => s.xmits.map (fun p => p.map (·.1))) =
    some [[.bio, .bio, .bio], [.bio], [.bio, .bio, .bio, .bio, .bio, .bio]] := by decide +kernel

/-- **C08, the read side is a conduit.**  The ciphertext written to the incoming BIO is the ciphertext taken from the
    wrapped transport, in order (all of it as long as the BIO was not closed); the engine consumed a prefix of it; and
    recv / recv_into returned exactly what `ssl.read` produced. -/
theorem C08_conduit {σ : Type} (E : Engine σ) (e : σ) (compat : Bool) (evs : List Ev) (s : St σ)
    (h : run E (St.init e compat) evs = some s) :
    s.consumed ++ s.rbio = s.fedAll ∧ s.fedAll <+: s.taken ∧ (s.rEof = false → s.fedAll = s.taken) ∧
    s.returned = s.engRead := by
  have g := G1.run h
  exact ⟨g.ins, g.fedTaken, g.fedEq, RInv.run h⟩

example : (run scriptEngine (St.init exLog true) exEvs).map (fun s => (s.taken, s.consumed, s.rbio, s.engRead)) =
    some ([1, 2, 3], [1, 2, 3], [], [120, 121]) := by decide +kernel

/-- a schedule with lock contention: task 2's write leaves 3 bytes in the BIO and is inside `transport.send_all`
    (holding the send lock) when task 1's read hits WANT_READ *and emits one byte* (so it has something to flush) and
    parks on the send lock -/
def exLog2 : List (CallKind × Resp) :=
  [ (.write, { out := .ok 2, cout := [5, 5, 5] }), (.read, { out := .wantRead, cout := [4] }),
    (.read, { out := .ok 1, data := [120] }) ]
def exEvs2 : List Ev := [.call 2 (.sendAll [97, 98]), .call 1 (.recv 4)]

/-- **C08, the two transport locks are exclusive.**  In every reachable state at most one task is inside
    `transport.send_all` and at most one inside `transport.recv_into` (so the order of the `xmits` log is the order on the
    wire, and ciphertext is fed to the incoming BIO in the order it was received); whoever is inside holds the lock; the
    tasks parked on a lock are exactly its queue, each once. -/
theorem C08_locks_exclusive {σ : Type} (E : Engine σ) (e : σ) (compat : Bool) (evs : List Ev) (s : St σ)
    (h : run E (St.init e compat) evs = some s) :
    (∀ t u, cls (s.pc t) = .holdS → cls (s.pc u) = .holdS → t = u) ∧
    (∀ t u, cls (s.pc t) = .holdR → cls (s.pc u) = .holdR → t = u) ∧
    (∀ t, cls (s.pc t) = .holdS → s.sendLock.locked = true) ∧ (∀ t, cls (s.pc t) = .holdR → s.recvLock.locked = true) ∧
    (∀ t, cls (s.pc t) = .waitS ↔ t ∈ s.sendLock.waiters) ∧ (∀ t, cls (s.pc t) = .waitR ↔ t ∈ s.recvLock.waiters) ∧
    s.sendLock.waiters.Nodup ∧ s.recvLock.waiters.Nodup := by
  have ci := run_CI (E := E) evs _ s (CI.init e compat) h
  exact ⟨(ci .send).uniq, (ci .recv).uniq, (ci .send).locked, (ci .recv).locked, (ci .send).wait, (ci .recv).wait,
         (ci .send).nodup, (ci .recv).nodup⟩

example : (run scriptEngine (St.init exLog2 true) exEvs2).map (fun s => (s.pc 2, s.pc 1, s.sendLock)) =
    some (.okSend .writeAll, .wrLock (.read 4), { locked := true, waiters := [1] }) := by decide +kernel

/-- **C08, no deadlock — the part that is proved.**  For every engine and every schedule:
    (1) *no wrapper-level deadlock, no lost wake-up*: in every reachable state in which some operation is incomplete, some
        task can be resumed — either a task is inside a call of the wrapped transport (its completion is the environment's
        business: "fair delivery"), or a lock is free and the head of its queue is runnable;
    (2) *flush before waiting for input*: whenever a step leaves its task waiting for ciphertext (queued for the receive
        lock or inside `transport.recv_into`), that task either just completed its own flush (`wrSend`), or was already
        queued for the receive lock, or the outgoing BIO is empty at the end of the step, or (since docs/C08-fix-2.patch)
        another task is queued on the send lock —
    (3) — and *whoever is granted the send lock flushes everything*: after the step of a task that was queued on the send
        lock and got it, the outgoing BIO is empty.  (Before the fix the last alternative of (2) did not exist: the reader
        queued behind that task instead, which is the full-duplex deadlock, see `C08_lockalways_deadlock`.)
    MISSING for the full statement ("the handshake and every transfer complete under any fair delivery"): a termination
    measure for a closed system of two endpoints under `TlsLaws` (+ the liveness law "read yields as soon as a complete
    record is available").  That part is exercised, not proved: the real-OpenSSL sessions (incl. the full-duplex sessions
    over bounded pipes) run on a virtual-time loop on which a hang is detected exactly.  Known limit of the code (see
    docs/C08.md): with two tasks in the WANT_READ branch at once, the second one waits for fresh input even if the first
    one's read already fed what it needed. -/
theorem C08_no_deadlock_partial {σ : Type} (E : Engine σ) (e : σ) (compat : Bool) (evs : List Ev) (s : St σ)
    (h : run E (St.init e compat) evs = some s) :
    ((∃ t, s.pc t ≠ .idle) → ∃ t io, (resume E s t io).isSome = true) ∧
    (∀ t io s', resume E s t io = some s' → waitsInput (s'.pc t) = true →
      (∃ m, s.pc t = .wrSend m) ∨ (∃ m, s.pc t = .rdLock m) ∨ s'.wbio = [] ∨ s'.sendLock.waiters ≠ []) ∧
    (∀ t a, s.pc t = .idle → waitsInput ((apiCall E s t a).pc t) = true →
      (apiCall E s t a).wbio = [] ∨ (apiCall E s t a).sendLock.waiters ≠ []) ∧
    (∀ t s', resume E s t .ok = some s' → cls (s.pc t) = .waitS → s'.wbio = []) := by
  have ci := run_CI (E := E) evs _ s (CI.init e compat) h
  exact ⟨progress_of_CIs E s ci, fun t io s' hs hw => (resume_flush s s' t io hs).imp_right (Or.imp_right (· hw)),
         fun t a _ hw => apiCall_flush s t a hw, fun t s' hs hc => grant_flushes s s' t hs hc⟩

/-- non-vacuity: in the contended state above an operation is incomplete, and the holder can be resumed -/
example : (run scriptEngine (St.init exLog2 true) exEvs2).map
    (fun s => ((resume scriptEngine s 2 .ok).isSome, (resume scriptEngine s 1 .ok).isSome)) = some (true, false) := by
  decide +kernel

/-- … and the handshake of the first example waits for input only after its 3 bytes of output were handed to the transport -/
example : (run scriptEngine (St.init exLog true) (exEvs.take 2)).map (fun s => (s.pc 0, s.wbio, s.xmits.map List.length)) =
    some (.rdInto .handshake, [], [3]) := by decide +kernel

/-- **C08, transparency (prefix at every moment).**  Two endpoints `a` (writer) and `b` (reader), each an arbitrary run of
    the wrapper machine around an engine obeying `TlsLaws`, with any number of tasks and both directions active; the
    network is any delivery such that what `b`'s transport has returned so far is a prefix of what `a` handed to its
    transport (any fragmentation, any delay).  Then the plaintext returned by `b`'s recv / recv_into calls is a prefix of the
    plaintext written on `a`. -/
theorem C08_transparent {σa σb : Type} {Ea : Engine σa} {Eb : Engine σb} {pAB pBA : Bytes → Bytes}
    (La : TlsLaws Ea pAB pBA) (Lb : TlsLaws Eb pBA pAB) (hm : Mono pAB)
    (ea : σa) (eb : σb) (ca cb : Bool) (evsA evsB : List Ev) (a : St σa) (b : St σb)
    (ga : La.good ea) (gb : Lb.good eb)
    (ia : La.acc ea = [] ∧ La.out ea = [] ∧ La.inp ea = [] ∧ La.ret ea = [])
    (ib : Lb.acc eb = [] ∧ Lb.out eb = [] ∧ Lb.inp eb = [] ∧ Lb.ret eb = [])
    (ha : run Ea (St.init ea ca) evsA = some a) (hb : run Eb (St.init eb cb) evsB = some b)
    (net : b.taken <+: untag a.xmits.flatten) :
    b.returned <+: untag a.written :=
  chain_prefix La Lb hm a.core b.core (G1.run ha) (G1.run hb) (GL.run La ga ia ha) (GL.run Lb gb ib hb) (RInv.run hb) net

/-- **C08, transparency (equality at quiescence).**  If moreover nothing is left anywhere on the way — `a`'s backlog and
    outgoing BIO are empty, the network has delivered everything, `b`'s incoming BIO is empty and open, and `b`'s engine
    has handed out every complete record it consumed — then `b` has read exactly what `a` wrote. -/
theorem C08_transparent_quiescent {σa σb : Type} {Ea : Engine σa} {Eb : Engine σb} {pAB pBA : Bytes → Bytes}
    (La : TlsLaws Ea pAB pBA) (Lb : TlsLaws Eb pBA pAB)
    (ea : σa) (eb : σb) (ca cb : Bool) (evsA evsB : List Ev) (a : St σa) (b : St σb)
    (ga : La.good ea) (gb : Lb.good eb)
    (ia : La.acc ea = [] ∧ La.out ea = [] ∧ La.inp ea = [] ∧ La.ret ea = [])
    (ib : Lb.acc eb = [] ∧ Lb.out eb = [] ∧ Lb.inp eb = [] ∧ Lb.ret eb = [])
    (ha : run Ea (St.init ea ca) evsA = some a) (hb : run Eb (St.init eb cb) evsB = some b)
    (hdq : a.deque = []) (hw : a.wbio = []) (net : b.taken = untag a.xmits.flatten)
    (hr : b.rbio = []) (he : b.rEof = false) (hbuf : Lb.ret b.eng = pAB (Lb.inp b.eng)) :
    b.returned = untag a.written :=
  chain_eq La Lb a.core b.core (G1.run ha) (G1.run hb) (GL.run La ga ia ha) (GL.run Lb gb ib hb) (RInv.run hb)
    hdq hw net hr he hbuf

/-- non-vacuity: the laws are satisfiable (null cipher, writes accepted 2 bytes at a time) and a concrete full-duplex
    exchange ends with equality: `a` sends "abc" + "de" (partial writes), `b` receives the ciphertext in pieces of 1, 3
    and 1 bytes and reads it with buffers of 2 and 8 bytes. -/
def exA : List Ev := [.call 2 (.sendIter [[97, 98, 99], [100, 101]]), .resume 2 .ok]
def exB : List Ev :=
  [.call 1 (.recv 2), .resume 1 (.data [97]), .call 1 (.recv 8), .resume 1 (.data [98, 99, 100]), .call 1 (.recv 8),
   .resume 1 (.data [101])]

example : (run (nullEngine 1) (St.init {} true) exA).map (fun a => (untag a.xmits.flatten, a.deque, a.wbio)) =
    some ([97, 98, 99, 100, 101], [], []) := by decide +kernel

example : (run (nullEngine 1) (St.init {} true) exB).map (fun b => (b.taken, b.returned, b.rbio, b.rEof)) =
    some ([97, 98, 99, 100, 101], [97, 98, 99, 100, 101], [], false) := by decide +kernel

example : (nullLaws 1).good {} ∧ Mono (id : Bytes → Bytes) := ⟨⟨rfl, rfl⟩, mono_id⟩

/-- the situation of the full-duplex defect on one endpoint: task 2's `send_all` produced 3 bytes, took the send lock and is
    parked inside `transport.send_all` (backpressure); then task 1's `recv` hits WANT_READ with an EMPTY outgoing BIO -/
def exLog3 : List (CallKind × Resp) :=
  [ (.write, { out := .ok 2, cout := [5, 5, 5] }), (.read, { out := .wantRead }), (.read, { out := .ok 1, data := [120] }) ]

/-- **C08, the reader needs no send lock when it has nothing to flush.**  For every engine, task count and schedule, in
    every reachable state `s` of the current code:
    (1) a pass of `_retry_ssl_method` (`attempt`: what `recv`, `recv_into`, `send_all*`, the handshake and every retry run)
        whose SSL call ends in WANT_READ while the outgoing BIO is empty — or while another task is already queued on the
        send lock — does not touch the send lock: the lock is unchanged, the task ends the step queued on the RECEIVE lock or
        inside `transport.recv_into`, and the only actions logged after the SSL call are `acq recv, rcv` (receive lock free)
        or `park recv`;
    (2) a task that does wait for the send lock in the WANT_READ branch is the first of that lock's queue (it waits for
        nobody but the lock's owner) and the outgoing BIO holds bytes to flush. -/
theorem C08_reader_needs_no_send_lock_when_nothing_pending {σ : Type} (E : Engine σ) (e : σ) (compat : Bool)
    (evs : List Ev) (s : St σ) (h : run E (St.init e compat) evs = some s) :
    (∀ t m, (callMeth E t m s).2 = .exc .wantRead →
      ((callMeth E t m s).1.wbio = [] ∨ s.sendLock.waiters ≠ []) →
      (attempt E s t m).sendLock = s.sendLock ∧ waitsInput ((attempt E s t m).pc t) = true ∧
      (attempt E s t m).acts = (callMeth E t m s).1.acts ++
        (if s.recvLock.free = true then [.acq t .recv, .rcv t] else [.park t .recv])) ∧
    (∀ t m, s.pc t = .wrLock m → s.sendLock.waiters.head? = some t ∧ s.wbio ≠ []) := by
  have wl := run_WL evs e compat s h
  exact ⟨fun t m hr hn => attempt_wantRead_direct s t m wl.1 hr hn, wl.2⟩

/-- non-vacuity of (1): in the situation `exLog3` the reader goes straight into `transport.recv_into`; the send lock
    (held by task 2, nobody queued) is untouched -/
example : (run scriptEngine (St.init exLog3 true) [.call 2 (.sendAll [97, 98])]).map
    (fun s => ((callMeth scriptEngine 1 (.read 4) s).2, (callMeth scriptEngine 1 (.read 4) s).1.wbio, s.pc 2, s.sendLock)) =
    some (.exc .wantRead, [], .okSend .writeAll, { locked := true, waiters := [] }) := by decide +kernel
example : (run scriptEngine (St.init exLog3 true) [.call 2 (.sendAll [97, 98])]).map
    (fun s => ((attempt scriptEngine s 1 (.read 4)).pc 1, (attempt scriptEngine s 1 (.read 4)).sendLock,
               (attempt scriptEngine s 1 (.read 4)).acts.drop s.acts.length)) =
    some (.rdInto (.read 4), { locked := true, waiters := [] },
          [.ssl 1 (.read 4) 0 { out := .wantRead }, .acq 1 .recv, .rcv 1]) := by decide +kernel

/-- non-vacuity of (2): in the contended state `exLog2` (the read emitted a byte) the reader waits for the send lock, first in
    the queue, with that byte to flush -/
example : (run scriptEngine (St.init exLog2 true) exEvs2).map (fun s => (s.pc 1, s.sendLock.waiters.head?, s.wbio)) =
    some (.wrLock (.read 4), some 1, [(.bio, 4)]) := by decide +kernel

/-- **C08, full-duplex progress: no wait-for edge from "needs ciphertext input" to the send lock's owner, unless the task
    itself has bytes to flush.**  For every engine, task count and schedule, in every reachable state:
    (1) a task of the WANT_READ branch waits for the send lock only as the first of its queue and only while the outgoing
        BIO holds bytes to flush;
    (2) hence, whenever the outgoing BIO is empty — in particular whenever the send lock's owner is parked inside
        `transport.send_all` with nothing left to flush, the configuration of the defect — every task that needs input
        (`needsInput`: the four pcs of the WANT_READ branch) is either the send lock's owner itself flushing its own bytes
        (`wrSend`), or queued on the RECEIVE lock only, or inside `transport.recv_into`;
    (3) and the receive side is live: if some task waits for input, then a task is inside `transport.recv_into` (the peer's
        `send_all` can complete), or the receive lock is free and the head of its queue is runnable.
    So the circular wait of the defect (reader → own sender → peer's reader → peer's sender → reader) cannot close through
    the send lock.  What remains unproved is named in `C08_no_deadlock_partial` (termination of whole sessions). -/
theorem C08_duplex_progress {σ : Type} (E : Engine σ) (e : σ) (compat : Bool) (evs : List Ev) (s : St σ)
    (h : run E (St.init e compat) evs = some s) :
    (∀ t m, s.pc t = .wrLock m → s.sendLock.waiters.head? = some t ∧ s.wbio ≠ []) ∧
    (s.wbio = [] → ∀ t, needsInput (s.pc t) = true →
      (∃ m, s.pc t = .wrSend m) ∨ (∃ m, s.pc t = .rdLock m) ∨ (∃ m, s.pc t = .rdInto m)) ∧
    ((∃ t, waitsInput (s.pc t) = true) → ∃ u, (∃ m, s.pc u = .rdInto m) ∨
      (s.recvLock.locked = false ∧ s.recvLock.waiters.head? = some u ∧ (resume E s u .ok).isSome = true)) := by
  have wl := (run_WL evs e compat s h).2
  have ci := run_CI (E := E) evs _ s (CI.init e compat) h
  exact ⟨wl, fun hw t hn => needsInput_past_send_lock s wl hw t hn, fun ⟨t, ht⟩ => recv_side_live s ci t ht⟩

/-- non-vacuity: the configuration of the defect on one endpoint — owner of the send lock parked in `transport.send_all`,
    BIO empty, the reader needs input — and the reader is inside `transport.recv_into` -/
example : (run scriptEngine (St.init exLog3 true) [.call 2 (.sendAll [97, 98]), .call 1 (.recv 4)]).map
    (fun s => (s.pc 2, s.wbio, needsInput (s.pc 1), s.pc 1)) =
    some (.okSend .writeAll, [], true, .rdInto (.read 4)) := by decide +kernel
example : (run scriptEngine (St.init exLog3 true) [.call 2 (.sendAll [97, 98]), .call 1 (.recv 4)]).map
    (fun s => (s.sendLock, s.recvLock)) =
    some ({ locked := true, waiters := [] }, { locked := true, waiters := [] }) := by decide +kernel

/-! ### the negative side: the two earlier versions of the WANT_READ branch deadlock

    A closed system of two endpoints (Lemmas/Tls08Pair.lean): null cipher, two pipes of 4 bytes, `send_all` of the wrapped
    transport copies what fits and waits, `recv_into` hands out what is there.  `Pair.deadlocked E p ts`: every task of `ts`
    is inside an API call on both sides and no lock hand-over, no copy into a pipe, no completion of a `send_all` /
    `recv_into` is enabled (`pstep_idle`: events of idle tasks are never enabled). -/

/-- both sides: task 2 sends 6 bytes (the pipe holds 4), then task 1 calls `recv` -/
def dupEvs : List PEv :=
  [ .call .a 2 (.sendAll [1, 2, 3, 4, 5, 6]), .call .b 2 (.sendAll [11, 12, 13, 14, 15, 16]), .copy .a, .copy .b,
    .call .a 1 (.recv 8), .call .b 1 (.recv 8) ]

/-- **the full-duplex deadlock of the code before the fix** (`WrPolicy.always`: the WANT_READ branch takes the send lock
    even with nothing to flush).  After `dupEvs` each side's sender owns the send lock and is parked in
    `transport.send_all` with 2 bytes that do not fit into the full pipe; each side's reader hit WANT_READ with an empty
    outgoing BIO and queued on the send lock behind its own sender; nobody is in `recv_into`: the senders' completion
    depends on the peer's reader, which depends on its own sender.  Every task waits, nothing can move. -/
theorem C08_lockalways_deadlock :
    (prun (nullEngine 9) (Pair.init {} .always 4 8) dupEvs).any (fun p =>
      p.a.pc 1 == .wrLock (.read 8) && p.a.pc 2 == .okSend .writeAll && p.b.pc 1 == .wrLock (.read 8) &&
      p.b.pc 2 == .okSend .writeAll && p.a.wbio == [] && p.b.wbio == [] &&
      p.a.sendLock == { locked := true, waiters := [1] } && p.b.sendLock == { locked := true, waiters := [1] } &&
      p.a.recvLock == {} && p.b.recvLock == {} &&
      p.ab == { buf := [1, 2, 3, 4], rest := [5, 6], busy := true } &&
      p.ba == { buf := [11, 12, 13, 14], rest := [15, 16], busy := true } &&
      p.deadlocked (nullEngine 9) [1, 2]) = true := by decide +kernel

/-- the same schedule with the current code: the readers are inside `recv_into`, no deadlock — -/
example :
    (prun (nullEngine 9) (Pair.init {} .pendingNoWaiter 4 8) dupEvs).map
      (fun p => (p.a.pc 1, p.a.pc 2, p.b.pc 1, p.b.pc 2, p.deadlocked (nullEngine 9) [1, 2])) =
    some (.rdInto (.read 8), .okSend .writeAll, .rdInto (.read 8), .okSend .writeAll, false) := by decide +kernel

/-- — and the transfer can be completed: each side has read exactly what the other wrote, everything is idle and empty -/
example :
    (prun (nullEngine 9) (Pair.init {} .pendingNoWaiter 4 8)
        (dupEvs ++ [ .recv .a 1, .recv .b 1, .copy .a, .copy .b, .sent .a 2, .sent .b 2, .call .a 1 (.recv 8),
                     .call .b 1 (.recv 8), .recv .a 1, .recv .b 1 ])).any (fun p =>
      p.a.returned == [11, 12, 13, 14, 15, 16] && untag p.b.written == [11, 12, 13, 14, 15, 16] &&
      p.b.returned == [1, 2, 3, 4, 5, 6] && untag p.a.written == [1, 2, 3, 4, 5, 6] &&
      p.a.pc 1 == .idle && p.a.pc 2 == .idle && p.b.pc 1 == .idle && p.b.pc 2 == .idle && p.ab == {} && p.ba == {}) = true := by
  decide +kernel

/-- both sides: task 2 sends 6 bytes, task 3 sends 2 more (its record is written into the BIO, then it queues on the send
    lock), then task 1 calls `recv` -/
def dup2Evs : List PEv :=
  [ .call .a 2 (.sendAll [1, 2, 3, 4, 5, 6]), .call .a 3 (.sendAll [7, 8]),
    .call .b 2 (.sendAll [11, 12, 13, 14, 15, 16]), .call .b 3 (.sendAll [17, 18]), .copy .a, .copy .b,
    .call .a 1 (.recv 8), .call .b 1 (.recv 8) ]

/-- **the residual deadlock of docs/C08-fix-1.patch alone** (`WrPolicy.pending`: the send lock is taken whenever the BIO is
    not empty).  With two concurrent `send_all` tasks per side the BIO holds the record of the SECOND sender (queued on the
    send lock) when the reader hits WANT_READ: the reader queues behind it, nobody reads, both pipes are full. -/
theorem C08_fix1_residual_deadlock :
    (prun (nullEngine 9) (Pair.init {} .pending 4 8) dup2Evs).any (fun p =>
      p.a.pc 1 == .wrLock (.read 8) && p.a.pc 2 == .okSend .writeAll && p.a.pc 3 == .okLock .writeAll &&
      p.b.pc 1 == .wrLock (.read 8) && p.b.pc 2 == .okSend .writeAll && p.b.pc 3 == .okLock .writeAll &&
      untag p.a.wbio == [7, 8] && untag p.b.wbio == [17, 18] &&
      p.a.sendLock == { locked := true, waiters := [3, 1] } && p.b.sendLock == { locked := true, waiters := [3, 1] } &&
      p.ab.buf.length == 4 && p.ba.buf.length == 4 && p.deadlocked (nullEngine 9) [1, 2, 3]) = true := by decide +kernel

/-- the same schedule with the current code: somebody is already queued on the send lock (and will flush), so the readers go
    straight into `recv_into`; and the whole transfer can be completed, in order -/
example :
    (prun (nullEngine 9) (Pair.init {} .pendingNoWaiter 4 8) dup2Evs).map
      (fun p => (p.a.pc 1, p.a.pc 3, p.a.sendLock, p.deadlocked (nullEngine 9) [1, 2, 3])) =
    some (.rdInto (.read 8), .okLock .writeAll, { locked := true, waiters := [3] }, false) := by decide +kernel

example :
    (prun (nullEngine 9) (Pair.init {} .pendingNoWaiter 4 8)
        (dup2Evs ++ [ .recv .a 1, .recv .b 1, .copy .a, .copy .b, .sent .a 2, .sent .b 2, .grant .a 3, .grant .b 3, .copy .a,
                      .copy .b, .sent .a 3, .sent .b 3, .call .a 1 (.recv 8), .call .b 1 (.recv 8), .recv .a 1,
                      .recv .b 1 ])).any (fun p =>
      p.a.returned == [11, 12, 13, 14, 15, 16, 17, 18] && p.b.returned == [1, 2, 3, 4, 5, 6, 7, 8] &&
      untag p.a.written == [1, 2, 3, 4, 5, 6, 7, 8] && p.a.pc 1 == .idle && p.a.pc 2 == .idle && p.a.pc 3 == .idle &&
      p.ab == {} && p.ba == {}) = true := by
  decide +kernel

end EasyNet

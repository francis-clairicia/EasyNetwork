/-
  C09 — TLS truncation is never reported as a clean end-of-stream.  Property theorems only.

  Model: EasyNet/Model/TlsEof.lean (statement-level transcription of `_retry_ssl_method`, `recv`, `recv_into`, `wrap`,
  `aclose`, `is_ssl_eof_error`, the blocking `SSLStreamTransport`, the client constructors' context set-up) over the tables
  `Gen.TlsEof.tables`, REGENERATED from the Python AST on every run (Gen/TlsEofTables.lean) — every theorem below is
  re-checked against what the source says now.

  The SSL object and the wrapped transport are an arbitrary *script* of answers (`Resp`), constrained only by `TlsEofLaws`
  (Lemmas/TlsEof.lean, Lemmas/TlsEofGen.lean):
     lawClean need fed script   a clean answer of `read` (returns b"" / raises SSLZeroReturnError) only after `need` bytes were fed
                                into the read BIO, `need` = stream offset where the peer's close_notify record ENDS; the wrapped
                                transport raises no SSL exception of its own
     Ragged ph script           at the ragged end (transport at EOF, no complete close_notify): buffered plaintext, WANT_READ
                                until `read_bio.write_eof()`, then the EOF error for ever
     UnwrapAns / out > 0        the first `unwrap()` appends the alert record to the write BIO
  "Wherever the cut fell" = for every number of delivered bytes `s.fed + totalFed script < need`: inside the handshake, between
  records, inside a record, inside the close_notify record.
-/
import EasyNet.Lemmas.TlsEofClose
namespace EasyNet
open EasyNet.TlsEof EasyNet.Gen.TlsEof

/-- the translator understood everything it read -/
theorem C09_tables_wellformed : tables.problems = [] := by decide

/-- **Truncation is an error** (standard-compatible mode).
    (1) Safety, for every script obeying `lawClean`, every start state, every sequence of `recv` / `recv_into` calls of any
        length: if fewer than `need` bytes are ever delivered (the stream was cut before the END of the peer's close_notify
        record — wherever), NO call reports end-of-stream: not the first one after the cut, not any later one.
    (2) Progress and stickiness at the ragged end (`Ragged`): every call completes, with buffered plaintext or with the EOF
        error raised by the SSL object; once the error has been answered every later call raises it again. -/
theorem C09_truncation_is_error :
    (∀ (need : Nat) (ws : List Which) (s : St) (script : List (Resp TExc)),
      lawClean tables need s.fed script = true → s.fed + totalFed script < need →
      ∀ p ∈ recvSeq tables true ws s script, p.1.isEof = false) ∧
    (∀ (w : Which) (ph : Phase) (s : St) (script : List (Resp TExc)), phaseOK ph s → Ragged ph script → script ≠ [] →
      ∃ o s' rest calls ph', recv tables true w s script = some (o, s', rest, calls) ∧ phaseOK ph' s' ∧ Ragged ph' rest ∧
        rest.length < script.length ∧ (ph = .failed → ph' = .failed) ∧
        ((∃ n, o = .data (n + 1) ∧ ph' ≠ .failed) ∨ (ph' = .failed ∧ ∃ e p, EofCls e p ∧ o = .exc (.cls e p)))) := by
  refine ⟨?_, fun w => recv_ragged true w⟩
  intro need ws s script hl hcut p hp
  cases he : p.1.isEof with
  | false => rfl
  | true =>
    have := recvSeq_clean need ws s script hl p hp he
    omega

/-- **Exact mapping** of `recv` / `recv_into` over the whole generated exception alphabet: an exception leaving the retry loop
    becomes an end-of-stream iff it is a `SSLZeroReturnError`, or standard-compatible mode is off and it is the EOF error
    (`SSLEOFError`, or any `SSLError` whose strerror carries OpenSSL's UNEXPECTED_EOF_WHILE_READING reason); everything else
    is re-raised unchanged (`is_ssl_eof_error` recognises neither more nor less). -/
theorem C09_recv_mapping_exact (sc : Bool) (w : Which) (e : TExc) (p : Bool) :
    (recvMap tables sc w (.exn (.cls e p))).isEof =
      (tables.sub e tables.zeroReturn || (!sc && (tables.sub e tables.eofError || (tables.sub e tables.sslError && p)))) ∧
    ((recvMap tables sc w (.exn (.cls e p))).isEof = false → (recvMap tables sc w (.exn (.cls e p))).isExc = true) := by
  rw [recvMap_cls]
  split
  · rename_i h
    exact ⟨h.symm, nofun⟩
  · rename_i h
    exact ⟨(Bool.eq_false_iff.2 h).symm, fun _ => rfl⟩

example : (recvMap tables true .recv (.exn (.cls .ssl_SSLEOFError true))).isExc = true ∧
    (recvMap tables false .recv (.exn (.cls .ssl_SSLError false))).isExc = true ∧
    (recvMap tables false .recvInto (.exn (.cls .ssl_SSLError true))).isEof = true := by decide

/-- non-vacuity: 40 bytes delivered, the close_notify would end at 64; the transport reports EOF, OpenSSL raises
    SSLEOFError; the second and third calls still fail (and the hypotheses of (1) hold for this script) -/
example :
    let script : List (Resp TExc) := [.ssl (.raise .ssl_SSLWantReadError false) 0 false, .tr (.n 39),
      .ssl (.raise .ssl_SSLWantReadError false) 0 false, .tr .eof, .ssl (.raise .ssl_SSLEOFError true) 0 false,
      .ssl (.raise .ssl_SSLEOFError false) 0 false, .ssl (.raise .ssl_SSLEOFError false) 0 false]
    lawClean tables 64 0 script = true ∧ totalFed script = 40 ∧
    (recvSeq tables true [.recv, .recvInto, .recv] {} script).map (fun p => p.1.isExc) = [true, true, true] := by
  decide +kernel

example : Ragged .open_ [.ssl (.ret 5) 0 false, .ssl (.raise tables.wantReadCls false) 0 false, .tr .eof,
    .ssl (.raise .ssl_SSLEOFError true) 0 false, .ssl (.raise .ssl_SSLError true) 0 false] :=
  .data _ 4 _ (by decide) (.want _ _ (by simp) (.err _ _ _ _ (by decide) (Or.inl rfl)
    (.err _ _ _ _ (by decide) (Or.inr ⟨rfl, rfl⟩) (.nil _))))

/-- **With standard-compatible mode off the same situation is an end-of-stream**: at the ragged end every call completes,
    with buffered plaintext or — as soon as the SSL object answers the EOF error, and for every later call — with `b""` / 0. -/
theorem C09_compat_off_is_eof (w : Which) (ph : Phase) (s : St) (script : List (Resp TExc))
    (hph : phaseOK ph s) (hr : Ragged ph script) (hne : script ≠ []) :
    ∃ o s' rest calls ph', recv tables false w s script = some (o, s', rest, calls) ∧ phaseOK ph' s' ∧ Ragged ph' rest ∧
      rest.length < script.length ∧ (ph = .failed → ph' = .failed) ∧
      ((∃ n, o = .data (n + 1) ∧ ph' ≠ .failed) ∨ (ph' = .failed ∧ o = .eof)) := by
  obtain ⟨o, s', rest, calls, ph', h1, h2, h3, h4, h5, h6⟩ := recv_ragged false w ph s script hph hr hne
  exact ⟨o, s', rest, calls, ph', h1, h2, h3, h4, h5, h6.imp_right fun ⟨hf, _, _, _, ho⟩ => ⟨hf, ho⟩⟩

example :
    let script : List (Resp TExc) := [.ssl (.raise .ssl_SSLWantReadError false) 0 false, .tr .eof,
      .ssl (.raise .ssl_SSLEOFError true) 0 false, .ssl (.raise .ssl_SSLEOFError false) 0 false]
    (recvSeq tables false [.recv, .recvInto] {} script).map (fun p => p.1.isEof) = [true, true] ∧
    (recvSeq tables true [.recv, .recvInto] {} script).map (fun p => p.1.isEof) = [false, false] := by
  decide +kernel

/-- **A clean end-of-stream only after the peer's close notification**: in standard-compatible mode, for every script obeying
    `lawClean` and every sequence of receive calls, a call that reports end-of-stream happened when at least `need` bytes —
    the whole stream up to the end of the close_notify record — had been written into the read BIO. -/
theorem C09_clean_only_after_notify (need : Nat) (ws : List Which) (s : St) (script : List (Resp TExc))
    (hl : lawClean tables need s.fed script = true) :
    ∀ p ∈ recvSeq tables true ws s script, p.1.isEof = true → need ≤ p.2.fed :=
  fun p hp he => (recvSeq_clean need ws s script hl p hp he).1

/-- non-vacuity: the complete stream (64 bytes) is delivered, `read` answers SSLZeroReturnError: end-of-stream, 64 bytes fed -/
example :
    let script : List (Resp TExc) := [.ssl (.raise .ssl_SSLWantReadError false) 0 false, .tr (.n 63), .ssl (.ret 5) 0 false,
      .ssl (.raise .ssl_SSLZeroReturnError false) 0 false]
    lawClean tables 64 0 script = true ∧
    (recvSeq tables true [.recv, .recv] {} script).map (fun p => (p.1.isEof, p.2.fed)) = [(false, 64), (true, 64)] := by
  decide +kernel

/-- **Closing sends the close notification, and always closes the wrapped transport.**
    (1) every exit path: whatever the SSL object and the wrapped transport answer (errors, cancellation, the shutdown
        timeout firing at any await), after a first `aclose()` the closing flag and the closed event are set and the wrapped
        transport's close was requested;
    (2) standard-compatible mode, wrapped transport not closing, for EVERY engine script whose first `unwrap()` call left
        `out > 0` bytes ending with the alert record in the outgoing BIO (UnwrapLaw) — whether that call then returned, wanted
        I/O (`UnwrapAns`), or FAILED with an SSL error (`UnwrapFail`: e.g. OpenSSL's "application data after close notify" when
        data received from the peer is still unread): the call list is `ssl.unwrap`, at most the two BIO eof marks (of the
        retry loop's `except SSLError`), then `transport.send_all(<all pending output, ending with the alert>)` — the alert is
        handed to the wrapped transport before ANY close call of it (which can only come later in the call list).
        This needs the clause `except SSLError: with suppress(OSError): await self.__flush_pending_writes()` in `aclose`:
        the generated table must say `acloseFlushesOnSslError = true` (first conjunct of (2); on a tree without the clause
        this theorem does not check, and `C09_close_notify_lost_without_flush_clause` below shows what happens instead);
    (3) when that `aclose()` meets no failure (the peer answers, nothing raises) it ends normally with the graceful
        `transport.aclose()` as its last call;
    (4) the failing-unwrap exchange, exactly: `unwrap()` writes the alert and raises `SSLError`; the alert is sent, the BIOs
        are marked, the wrapped transport is closed gracefully, `aclose()` returns normally. -/
theorem C09_close_sends_notify :
    (∀ (sc : Bool) (s : St) (script : List (Resp TExc)) (o : COut TExc) (s' : St) (rest : List (Resp TExc)) (calls : List Call),
      aclose tables sc s script = some (o, s', rest, calls) → s.closing = false →
      s'.closing = true ∧ s'.closedEv = true ∧ s'.innerClosing = true) ∧
    (tables.acloseFlushesOnSslError = true ∧
     ∀ (s : St) (a : SslAns TExc) (out : Nat) (rest0 : List (Resp TExc)) (o : COut TExc) (s' : St) (rest : List (Resp TExc))
      (calls : List Call), s.closing = false → s.innerClosing = false → 0 < out → (UnwrapAns a ∨ UnwrapFail a) →
      aclose tables true s (.ssl a out true :: rest0) = some (o, s', rest, calls) →
      ∃ pre tail, calls = .ssl .unwrap :: (pre ++ .send (s.wpend + out) true :: tail) ∧ (pre = [] ∨ pre = [.rbioEof, .wbioEof])) ∧
    (∀ (s : St) (k : Nat), s.closing = false → s.innerClosing = false → s.wpend = 0 →
      aclose tables true s [.ssl (.raise tables.wantReadCls false) (k + 1) true, .tr .ok, .tr (.n k), .ssl (.ret 0) 0 false, .tr .ok]
        = some (.ok, { wpend := 0, walert := false, rEof := true, wEof := true, fed := s.fed + (k + 1), closing := true,
                       closedEv := true, innerClosing := true }, [],
            [.ssl .unwrap, .send (k + 1) true, .recvInto, .rbioWrite (k + 1), .ssl .unwrap, .rbioEof, .wbioEof, .innerClose])) ∧
    (∀ (s : St) (k : Nat) (p : Bool), s.closing = false → s.innerClosing = false →
      aclose tables true s [.ssl (.raise tables.sslError p) (k + 1) true, .tr .ok, .tr .ok]
        = some (.ok, { wpend := 0, walert := false, rEof := true, wEof := true, fed := s.fed, closing := true,
                       closedEv := true, innerClosing := true }, [],
            [.ssl .unwrap, .rbioEof, .wbioEof, .send (s.wpend + (k + 1)) true, .rbioEof, .wbioEof, .innerClose])) := by
  have g1 : tables.acloseGuardSC = true := rfl
  have g2 : tables.acloseUnwraps = true := rfl
  have g3 : tables.acloseMarksEof = true := rfl
  have g5 : tables.acloseFinalClose = true := rfl
  refine ⟨fun sc s script o s' rest calls h hc => (aclose_spec rfl g5 hc h).1,
    ⟨fact_flush_clause, ?_⟩, ?_, ?_⟩
  · intro s a out rest0 o s' rest calls hc hi hout ha h
    obtain ⟨x, s2, rest2, c2, tail, hu, rfl⟩ := (aclose_spec rfl g5 hc h).2 (by rw [hi]; rfl)
    obtain ⟨pre, t, rfl, hp⟩ := acloseUnwrap_alert_sent hout ha hu
    exact ⟨pre, t ++ tail, by simp, hp⟩
  · intro s k hc hi hp
    simp [aclose, acloseUnwrap, hc, hi, hp, g1, g2, g3, g5, retry, fact_want, fact_wantflush, flush, sendPending, addOut,
      innerClose, markBoth]
  · intro s k p hc hi
    have ha : retryAct tables tables.retryClauses tables.sslError = some .markEofReraise := by decide
    have hf : ∀ q, sslFlushCaught tables (.cls tables.sslError q) = true := fun _ => rfl
    simp [aclose, acloseUnwrap, hc, hi, g1, g2, g3, g5, retry_mark ha, hf, flush, sendPending, addOut, innerClose,
      markBoth]

/-- non-vacuity of (1): the shutdown timeout fires while waiting for the peer's close_notify — `aclose()` returns normally,
    the alert had been handed over, the wrapped transport was closed forcefully -/
example : (aclose tables true {} [.ssl (.raise .ssl_SSLWantReadError false) 24 true, .tr .ok, .tr .timeout]).map
    (fun r => (r.2.2.2, r.2.1.innerClosing, r.2.1.closedEv)) =
    some ([.ssl .unwrap, .send 24 true, .recvInto, .innerForce], true, true) := by decide +kernel

/-- non-vacuity of (2), failing case: every SSL error class other than WANT_READ / WANT_WRITE is an `UnwrapFail` answer;
    application data is unread, `unwrap()` writes the 24-byte alert and raises: the alert is sent before the close; the same
    when the flush itself fails (`OSError` suppressed) or is cancelled (forced close, after the send was attempted) -/
example : UnwrapFail (.raise .ssl_SSLError false) ∧ UnwrapFail (.raise .ssl_SSLEOFError true) ∧
    UnwrapFail (.raise .ssl_SSLZeroReturnError false) ∧ UnwrapFail (.raise .ssl_SSLSyscallError false) :=
  ⟨⟨_, _, rfl, by decide⟩, ⟨_, _, rfl, by decide⟩, ⟨_, _, rfl, by decide⟩, ⟨_, _, rfl, by decide⟩⟩

example : (aclose tables true {} [.ssl (.raise .ssl_SSLError false) 24 true, .tr .ok, .tr .ok]).map (fun r => (r.1.isOk, r.2.2.2)) =
      some (true, [.ssl .unwrap, .rbioEof, .wbioEof, .send 24 true, .rbioEof, .wbioEof, .innerClose]) ∧
    (aclose tables true {} [.ssl (.raise .ssl_SSLEOFError true) 31 true, .tr (.raise .builtins_BrokenPipeError), .tr .ok]).map
      (fun r => (r.1.isOk, r.2.2.2)) =
      some (true, [.ssl .unwrap, .rbioEof, .wbioEof, .send 31 true, .rbioEof, .wbioEof, .innerClose]) ∧
    (aclose tables true {} [.ssl (.raise .ssl_SSLZeroReturnError false) 24 true, .tr .cancel]).map (fun r => (r.1.isOk, r.2.2.2)) =
      some (false, [.ssl .unwrap, .rbioEof, .wbioEof, .send 24 true, .innerForce]) := by decide +kernel

/-- the table the translator emits for a tree whose `aclose()` has only `except OSError: pass` around the unwrap -/
def tablesNoFlush : Tables TExc :=
  { tables with acloseFlushesOnSslError := false, acloseFlushOn := [], acloseFlushSuppress := [] }

/-- **The defect without the flush clause** (negative result; `tablesNoFlush` = the generated table of a tree whose `aclose()`
    lacks `except SSLError: … __flush_pending_writes()`): data received from the peer is unread, `unwrap()` writes the alert
    (`k + 1` bytes) into the outgoing BIO and raises `SSLError`; the retry loop marks the BIOs and re-raises, `except OSError:
    pass` drops the error, the wrapped transport is closed — `aclose()` returns normally, NO `send_all` call was made, and the
    alert is still in the outgoing BIO (`wpend`, `walert`): the close notification is produced but never sent. -/
theorem C09_close_notify_lost_without_flush_clause (s : St) (k : Nat) (p : Bool) (hc : s.closing = false)
    (hi : s.innerClosing = false) :
    ∃ s', aclose tablesNoFlush true s [.ssl (.raise .ssl_SSLError p) (k + 1) true, .tr .ok] =
        some (.ok, s', [], [.ssl .unwrap, .rbioEof, .wbioEof, .rbioEof, .wbioEof, .innerClose]) ∧
      s'.wpend = s.wpend + (k + 1) ∧ s'.walert = true ∧ s'.innerClosing = true := by
  have ha : retryAct tablesNoFlush tablesNoFlush.retryClauses .ssl_SSLError = some .markEofReraise := by decide
  have hs : ∀ q, swallowed tablesNoFlush (.cls .ssl_SSLError q) = true := by intro q; rfl
  have hf : ∀ q, sslFlushCaught tablesNoFlush (.cls .ssl_SSLError q) = false := by intro q; rfl
  have g1 : tablesNoFlush.acloseGuardSC = true := by decide
  have g2 : tablesNoFlush.acloseUnwraps = true := by decide
  have g3 : tablesNoFlush.acloseMarksEof = true := by decide
  have g5 : tablesNoFlush.acloseFinalClose = true := by decide
  refine ⟨{ wpend := s.wpend + (k + 1), walert := true, rEof := true, wEof := true, fed := s.fed, closing := true,
            closedEv := true, innerClosing := true }, ?_, rfl, rfl, rfl⟩
  simp [aclose, acloseUnwrap, hc, hi, g1, g2, g3, g5, retry_mark ha, hs, hf, innerClose, markBoth, addOut]

example : (aclose tablesNoFlush true {} [.ssl (.raise .ssl_SSLError false) 24 true, .tr .ok]).map
    (fun r => (r.1.isOk, r.2.1.wpend, r.2.1.walert, r.2.2.2)) =
    some (true, 24, true, [.ssl .unwrap, .rbioEof, .wbioEof, .rbioEof, .wbioEof, .innerClose]) := by decide +kernel

/-- **Blocking transport**: `wrap_socket(suppress_ragged_eofs = not standard_compatible)`; `recv` / `recv_into` turn
    `SSLZeroReturnError` (every subclass) and a 0-byte read into end-of-stream, a ragged EOF (`SSLEOFError`) into an error
    iff standard-compatible (else end-of-stream, through the stdlib's suppression), and never turn any other exception
    into an end-of-stream; `close()` calls `unwrap()` first when standard-compatible and the socket is open, and always ends
    by closing the socket. -/
theorem C09_sync_mapping (sc : Bool) (w : Which) :
    tables.suppressRagged.eval sc = some (!sc) ∧
    (∀ e p, tables.sub e tables.zeroReturn = true → syncRecv tables sc w (.raise e p) = .eof) ∧
    (∀ p, syncRecv tables sc w (.raise tables.eofError p) = if sc then .exc tables.eofError else .eof) ∧
    syncRecv tables sc w (.ret 0) = .eof ∧ (∀ n, syncRecv tables sc w (.ret (n + 1)) = .data (n + 1)) ∧
    (∀ e p, tables.sub e tables.zeroReturn = false → (sc = true ∨ tables.sub e tables.eofError = false) →
      syncRecv tables sc w (.raise e p) ≠ .eof) ∧
    (∀ (open_ : Bool) (script : List (UAns TExc)),
      (syncClose tables sc open_ script).1.getLast? = some .closeSocket ∧
      (sc = true → open_ = true → (syncClose tables sc open_ script).1.head? = some .unwrap)) := by
  have hk : tables.suppressRagged.eval sc = some (!sc) := rfl
  refine ⟨hk, ?_, ?_, by cases sc <;> cases w <;> rfl, ?_, ?_, ?_⟩
  · intro e p hz
    cases hb : (!sc && tables.sub e tables.eofError)
    · simp only [syncRecv, hk, stdlibRead, hb, ((hierarchy e).2 hz).2, syncClause, hz, if_true, HStmt.eval, Bool.false_eq_true,
        if_false]
    · simp only [syncRecv, hk, stdlibRead, hb, if_true]
  · intro p; cases sc <;> cases w <;> rfl
  · intro n; cases sc <;> cases w <;> rfl
  · intro e p hz hs
    have hb : (!sc && tables.sub e tables.eofError) = false := by cases hs with | inl h => simp [h] | inr h => simp [h]
    simp only [syncRecv, hk, stdlibRead, hb, Bool.false_eq_true, if_false, syncClause, hz]
    split <;> simp
  · intro open_ script
    exact ⟨syncClose_last rfl, fun hsc hop => by subst hsc hop; exact syncClose_head rfl⟩

example : syncRecv tables true .recv (.raise .ssl_SSLEOFError true) = .exc .ssl_SSLEOFError ∧
    syncRecv tables false .recvInto (.raise .ssl_SSLEOFError true) = .eof ∧
    syncRecv tables true .recv (.raise .ssl_SSLSyscallError false) = .wouldBlockRead ∧
    (syncClose tables true true [.raise .ssl_SSLWantReadError, .timeout]).1 = [.unwrap, .closeSocket] := by decide +kernel

/-- **Default client contexts** (`ssl=True`): both client constructors, under the guards `ssl` and `isinstance(ssl, bool)` only
    (nothing else — in particular not conditioned on `ssl_standard_compatible`), build the context with
    `create_default_context()` and leave it with the OP_IGNORE_UNEXPECTED_EOF bit CLEARED whatever the default option word was
    (Python ≥ 3.10 sets the bit on every new context). -/
theorem C09_client_default_context :
    tables.clientCtx.map (·.client) = ["tcp", "async_tcp"] ∧
    ∀ c ∈ tables.clientCtx, c.guards = ["ssl", "isinstance(ssl, bool)"] ∧
      ∃ bit, tables.optIgnoreEofBit = some bit ∧ ∀ d : Nat, (ctxAfter optBit d c.stmts d).testBit bit = false := by
  refine ⟨rfl, fun c hc => ?_⟩
  simp only [tables, List.mem_cons, List.not_mem_nil, or_false] at hc
  -- either set-up computes to `clearBit d 7`
  rcases hc with rfl | rfl
  · exact ⟨rfl, 7, rfl, fun d => clearBit_testBit d 7⟩
  · exact ⟨rfl, 7, rfl, fun d => clearBit_testBit d 7⟩

/-- non-vacuity: the default option word of this interpreter's `create_default_context()` has the bit set before -/
example : (0x82520050 : Nat).testBit 7 = false ∧ (0x825200D0 : Nat).testBit 7 = true ∧
    (ctxAfter optBit 0x825200D0 [.createDefault, .checkHostnameOff, .clearOption "OP_IGNORE_UNEXPECTED_EOF"] 0).testBit 7 = false := by
  decide +kernel

end EasyNet

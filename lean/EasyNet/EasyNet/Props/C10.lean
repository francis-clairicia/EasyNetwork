/-
  C10 — Cancelling or timing out a receive never loses data.
  Property theorems only (helper lemmas: EasyNet/Lemmas/{RecvProto,RecvLayers}.lean; model:
  EasyNet/Model/{RecvProto,RecvLayers}.lean).

  The protocol model is `StreamReaderBufferedProtocol` (get_buffer / buffer_updated / eof_received / receive_data /
  receive_data_into / _wait_for_data) together with the CPython 3.12 semantics of the task that awaits it
  (`Task.cancel`, `_must_cancel`, wake-up in a later loop turn).  An event list is any interleaving of
  receive starts, data arrivals, end-of-stream, `task.cancel()` and loop turns — in particular a cancel and a
  data arrival between the same two turns, in either order.

  The theorems are about the protocol *with* the guard in `get_buffer` and the salvage on a cancelled wake-up
  (`Cfg.guard = Cfg.salvage = true`, docs/C10-fix-1.patch).  `C10_unguarded_loses_data` and
  `C10_unsalvaged_loses_data` show that each of the two is necessary: without it the statement is false of the
  faithful model of the code before the patch.
-/
import EasyNet.Lemmas.RecvProto
import EasyNet.Lemmas.RecvLayers
namespace EasyNet
open EasyNet.C10.RP

/-- **C10, main statement.**  For every event list without connection loss: the bytes returned by receives so
    far, followed by the bytes whose count is held by a completed-but-not-yet-resumed read waiter, followed by the
    protocol's internal buffer, are exactly the bytes the transport delivered — nothing lost, duplicated or
    reordered, whatever the relative order of data arrival, cancellation request and task wake-up. -/
theorem C10_conservation (c : Cfg) (hg : c.guard = true) (hs : c.salvage = true) (evs : List Ev)
    (hnl : ∀ e ∈ evs, e.isLost = false) :
    deliveredOf (run c (St.init c) evs).2 ++ inflight (run c (St.init c) evs).1 ++ (run c (St.init c) evs).1.buf
      = arrivedOf (run c (St.init c) evs).2 :=
  (List.append_assoc ..).trans (run_ok hg hs evs hnl (inv_init c)).2

/-- non-vacuity: cancel and data in the same loop turn, in both orders, then a later receive -/
example :
    let c : Cfg := { maxSize := 4096, guard := true, salvage := true }
    let evs : List Ev := [.start (.into 8), .turn, .cancel, .io [97, 98, 99], .turn,
                          .start (.into 8), .turn, .io [100], .cancel, .turn, .start (.recv 9), .turn, .turn]
    (∀ e ∈ evs, e.isLost = false) ∧ (run c (St.init c) evs).2.getLast? = some (.ret [97, 98, 99, 100]) := by
  decide +kernel

/-- **Whenever no receive is in progress, everything not yet returned is parked in the internal buffer**
    (so the next receive finds it): `delivered ++ buffer = arrived`. -/
theorem C10_quiescent_all_parked (c : Cfg) (hg : c.guard = true) (hs : c.salvage = true) (evs : List Ev)
    (hnl : ∀ e ∈ evs, e.isLost = false) (hidle : (run c (St.init c) evs).1.pc = .idle) :
    deliveredOf (run c (St.init c) evs).2 ++ (run c (St.init c) evs).1.buf = arrivedOf (run c (St.init c) evs).2 := by
  have h := C10_conservation c hg hs evs hnl
  rwa [List.append_assoc, ← held, held_of_pc hidle] at h

example :
    let c : Cfg := { maxSize := 4096, guard := true, salvage := true }
    let evs : List Ev := [.start (.into 8), .turn, .io [97, 98, 99], .cancel, .turn]
    (∀ e ∈ evs, e.isLost = false) ∧ (run c (St.init c) evs).1.pc = .idle ∧
      (run c (St.init c) evs).1.buf = [97, 98, 99] ∧ (run c (St.init c) evs).2.getLast? = some .cancelled := by
  decide +kernel

/-- **A cancelled receive returns nothing and leaves everything it had been handed in front of the internal
    buffer.**  If a loop turn ends the receive with `CancelledError`, no byte is returned, no receive is in progress
    afterwards, and the internal buffer is what was in flight followed by what was already buffered. -/
theorem C10_cancelled_receive_returns_nothing (c : Cfg) (hg : c.guard = true) (hs : c.salvage = true) (evs : List Ev)
    (hnl : ∀ e ∈ evs, e.isLost = false)
    (hc : (step c (run c (St.init c) evs).1 .turn).2 = .cancelled) :
    (step c (run c (St.init c) evs).1 .turn).1.pc = .idle ∧
    (step c (run c (St.init c) evs).1 .turn).1.buf
      = inflight (run c (St.init c) evs).1 ++ (run c (St.init c) evs).1.buf :=
  turn_cancelled hs (run_ok hg hs evs hnl (inv_init c)).1 hc

example :
    let c : Cfg := { maxSize := 4096, guard := true, salvage := true }
    let evs : List Ev := [.start (.into 2), .turn, .io [97, 98, 99], .io [99, 100], .cancel]
    (∀ e ∈ evs, e.isLost = false) ∧ (step c (run c (St.init c) evs).1 .turn).2 = .cancelled ∧
      inflight (run c (St.init c) evs).1 = [97, 98] ∧ (step c (run c (St.init c) evs).1 .turn).1.buf = [97, 98, 99, 100] := by
  decide +kernel

/-- **Later receives deliver exactly the rest of the stream.**  From any reachable state with no receive in
    progress and a non-empty internal buffer, a `receive_data(k)` (k > 0) that is left alone returns the first `k`
    parked bytes and keeps the others, in order. -/
theorem C10_later_receive_delivers_rest (c : Cfg) (hg : c.guard = true) (hs : c.salvage = true) (evs : List Ev)
    (hnl : ∀ e ∈ evs, e.isLost = false) (hidle : (run c (St.init c) evs).1.pc = .idle)
    (hne : (run c (St.init c) evs).1.buf ≠ []) (k : Nat) (hk : k ≠ 0) :
    (run c (run c (St.init c) evs).1 [.start (.recv k), .turn, .turn]).2
      = [.started, .parked, .ret ((run c (St.init c) evs).1.buf.take k)] ∧
    (run c (run c (St.init c) evs).1 [.start (.recv k), .turn, .turn]).1.buf = (run c (St.init c) evs).1.buf.drop k :=
  recv_buffered hidle (run_ok hg hs evs hnl (inv_init c)).1.2.1 hne hk

example :
    let c : Cfg := { maxSize := 4096, guard := true, salvage := true }
    let evs : List Ev := [.start (.into 2), .turn, .io [97, 98, 99], .io [99, 100], .cancel, .turn]
    (∀ e ∈ evs, e.isLost = false) ∧ (run c (St.init c) evs).1.pc = .idle ∧ (run c (St.init c) evs).1.buf ≠ [] ∧
      (run c (run c (St.init c) evs).1 [.start (.recv 3), .turn, .turn]).2 = [.started, .parked, .ret [97, 98, 99]] := by
  decide +kernel

/-- **The guard is necessary.**  In the model of the code before the patch (`guard = false`), a cancel followed by
    a data arrival in the same loop turn loses the bytes: the account of `C10_conservation` is violated. -/
theorem C10_unguarded_loses_data :
    ∃ evs : List Ev, (∀ e ∈ evs, e.isLost = false) ∧
      let c : Cfg := { maxSize := 4096, guard := false, salvage := true }
      (run c (St.init c) evs).1.pc = .idle ∧
      deliveredOf (run c (St.init c) evs).2 ++ (run c (St.init c) evs).1.buf ≠ arrivedOf (run c (St.init c) evs).2 :=
  ⟨[.start (.into 8), .turn, .cancel, .io [97, 98, 99], .turn], by decide +kernel⟩

/-- **The salvage is necessary.**  In the model without it (`salvage = false`), a data arrival followed by a cancel
    in the same loop turn loses the bytes. -/
theorem C10_unsalvaged_loses_data :
    ∃ evs : List Ev, (∀ e ∈ evs, e.isLost = false) ∧
      let c : Cfg := { maxSize := 4096, guard := true, salvage := false }
      (run c (St.init c) evs).1.pc = .idle ∧
      deliveredOf (run c (St.init c) evs).2 ++ (run c (St.init c) evs).1.buf ≠ arrivedOf (run c (St.init c) evs).2 :=
  ⟨[.start (.into 8), .turn, .io [97, 98, 99], .cancel, .turn], by decide +kernel⟩

/-- **Endpoint / server-receiver / TLS-ciphertext-reader / blocking-endpoint receive loops hand the consumer exactly
    what they took from the transport**, whatever the sequence of returns, raises (cancellation, timeout, error) of the
    lower receive and cancellations at the server receiver's shielded yield: there is no suspension point between the
    return of the lower receive and the hand-over, and a lower receive that raises returned nothing
    (`C10_cancelled_receive_returns_nothing`). -/
theorem C10_layer_feeds_what_it_takes (evs : List C10.RL.LEv) :
    (C10.RL.lrun C10.RL.LSt.init evs).fed = (C10.RL.lrun C10.RL.LSt.init evs).taken :=
  C10.RL.lrun_fed evs rfl

example :
    (C10.RL.lrun C10.RL.LSt.init [.call false false, .lowerRet [97] false, .lowerRaise, .call false false,
                           .lowerRet [98, 10] true, .call true true, .cancelAtYield]).fed = [97, 98, 10] := by
  decide +kernel

/-- **TLS read loop (`_retry_ssl_method(ssl_object.read, …)` without a flush after a successful read).**  For every
    sequence of calls, completions of the awaited lock / send / `recv_into` operations, environment answers (pending
    output, lock contention) and cancellations at any await: the plaintext returned, followed by what is still in the read
    BIO, is exactly what the wrapped transport's `recv_into` returned, and no suspended call ever holds plaintext. -/
theorem C10_tls_reader (c : C10.RL.TCfg) (hc : c.flushAfterRead = false) (evs : List C10.RL.TEv) :
    (C10.RL.trun c C10.RL.TSt.init evs).returned ++ (C10.RL.trun c C10.RL.TSt.init evs).bio = (C10.RL.trun c C10.RL.TSt.init evs).taken ∧
    C10.RL.held (C10.RL.trun c C10.RL.TSt.init evs) = [] := by
  have h := C10.RL.trun_ok hc evs (s := C10.RL.TSt.init) ⟨fun _ => ⟨nofun, nofun⟩, rfl⟩
  exact ⟨h.2, h.1.held⟩

example :
    let c : C10.RL.TCfg := { flushAfterRead := false }
    let busy : C10.RL.TEnv := { pending := false, sendLockFree := false, recvLockFree := true }
    let free : C10.RL.TEnv := { pending := false, sendLockFree := true, recvLockFree := true }
    (C10.RL.trun c C10.RL.TSt.init [.call free, .resume busy [97, 98, 99], .cancel, .call free]).returned = [97, 98, 99] := by
  decide +kernel

/-- **The flush after a read loses data** (the code before docs/C10-fix-2.patch): the receive is parked in `recv_into`,
    a sender then takes the send lock, ciphertext arrives and is decrypted, the receive waits for the send lock and is
    cancelled there — the plaintext is neither returned nor anywhere in the transport. -/
theorem C10_tls_flush_after_read_loses_data :
    ∃ evs : List C10.RL.TEv,
      let c : C10.RL.TCfg := { flushAfterRead := true }
      (C10.RL.trun c C10.RL.TSt.init evs).pc = .idle ∧
      (C10.RL.trun c C10.RL.TSt.init evs).returned ++ (C10.RL.trun c C10.RL.TSt.init evs).bio ≠ (C10.RL.trun c C10.RL.TSt.init evs).taken :=
  ⟨[.call { pending := false, sendLockFree := true, recvLockFree := true },
    .resume { pending := false, sendLockFree := false, recvLockFree := true } [97, 98, 99], .cancel], by decide +kernel⟩

end EasyNet

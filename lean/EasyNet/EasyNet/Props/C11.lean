/-
  C11 — A timeout is a budget for the whole blocking operation.
  Property theorems only (helper lemmas: EasyNet/Lemmas/{Time,TimeMachines,SendData,Client}.lean).

  Model: EasyNet/Model/{Retry,Send,Timeout}.lean, tied to the Python source by the correspondence check.
  Time is in virtual ticks.  A `World` records where the clock went:
     waited     time spent in select() up to the requested wait        over   over-sleep of select() beyond the request
     lockw      time spent in lock.acquire(True, timeout)              proc   time the socket calls themselves took
     unbounded  time spent in select()/`with lock:` WITHOUT timeout
  and the exact accounting `elapsed = Δwaited + Δover + Δlockw + Δproc + Δunbounded` is part of every statement, so
  "returns or raises after at most T of waiting in total (plus bounded processing time)" reads
     Δwaited + Δlockw ≤ T      and      elapsed = Δwaited + Δlockw + Δover + Δproc ≤ T + Δover + Δproc.
  All theorems hold for every socket script (arrival schedule: drip-feed, bursts, spurious readiness, errors), every
  selector script (ready after d, expired, over-sleep), every retry interval, both socket flavours and — for the
  receive side — every stream consumer (`next` is a parameter).
-/
import EasyNet.Lemmas.Client
namespace EasyNet

/-- toy stream consumer used by the non-vacuity examples only (the theorems hold for EVERY consumer): the state is the
    buffered bytes, a packet is everything before the first byte 10 -/
def toyNext (buf chunk : Bytes) : Bytes × Option Item :=
  match (buf ++ chunk).span (· != 10) with
  | (a, _ :: rest) => (rest, some (.frame a))
  | (a, []) => (a, none)

/-- **C11, `_retry`.**  One `_retry(callback, T)`: the time spent in select() is at most `T`, nothing is spent in an
    unbounded wait, and the elapsed time is exactly waiting + over-sleep + processing. -/
theorem C11_retry_budget (cls : SockEv → Cls) (o : Obs) (ho : o.isSelect = false) (hl : o.isLockWait = false) (ri : Tmo)
    (sock : List SockCall) (tv : Nat) (w : World) :
    (retry cls o ri sock (some tv) w).w.waited ≤ w.waited + tv ∧
    (retry cls o ri sock (some tv) w).w.unbounded = w.unbounded ∧
    (retry cls o ri sock (some tv) w).w.now + (w.waited + w.over + w.proc) =
      w.now + ((retry cls o ri sock (some tv) w).w.waited + (retry cls o ri sock (some tv) w).w.over +
               (retry cls o ri sock (some tv) w).w.proc) := by
  have h := retry_call cls o ho hl ri sock tv w
  exact ⟨h.budget, h.unb, h.elapsed⟩

/-- non-vacuity: two retry-interval wake-ups, a spurious readiness, then the datagram -/
example : (dgramRecv (some 2) 64 (some 5) [⟨.eagain, 0⟩, ⟨.eintr, 1⟩, ⟨.eagain, 0⟩, ⟨.data [7], 0⟩]
    { sel := [.expired 0, .ready 1, .ready 0] }).out = .ok ∧
    (dgramRecv (some 2) 64 (some 5) [⟨.eagain, 0⟩, ⟨.eintr, 1⟩, ⟨.eagain, 0⟩, ⟨.data [7], 0⟩]
    { sel := [.expired 0, .ready 1, .ready 0] }).w.waited = 3 := by decide +kernel

/-- **C11, a zero timeout never blocks.**  With `timeout = 0`, `recv_packet`, `send_packet` (endpoint or client, with
    or without lock contention) and a bare `_retry` perform no select() and no blocking lock acquisition at all. -/
theorem C11_zero_never_waits {κ : Type} (fl : Flavour) (ri : Tmo) (room : κ → Nat) (next : κ → Bytes → κ × Option Item)
    (lk : Option LockEv) (cons : κ) (eof : Bool) (sock : List SockCall) (w : World)
    (tr : Transport) (fix : Bool) (iov : Int) (chunks : List Bytes)
    (cls : SockEv → Cls) (o : Obs) (ho : o.isSelect = false) (hl : o.isLockWait = false) :
    ((clientRecv fl ri room next lk cons eof (some 0) sock w).w.nsel = w.nsel ∧
     (clientRecv fl ri room next lk cons eof (some 0) sock w).w.nlockw = w.nlockw) ∧
    ((clientSend tr fix iov ri lk chunks (some 0) sock w).2.nsel = w.nsel ∧
     (clientSend tr fix iov ri lk chunks (some 0) sock w).2.nlockw = w.nlockw) ∧
    ((retry cls o ri sock (some 0) w).w.nsel = w.nsel) :=
  ⟨(clientRecv_fin fl ri room next lk cons eof 0 sock w).zero rfl,
   (clientSend_fin tr fix iov ri lk chunks 0 sock w).zero rfl, (retry_call cls o ho hl ri sock 0 w).zero rfl⟩

/-- non-vacuity: zero timeout, data not there: TimeoutError at once, clock untouched -/
example : (clientRecv .plain none (fun _ => 4) toyNext (some (.busy 3)) [] false
    (some 0) [⟨.data [1, 10], 0⟩] { sel := [] }).out = .timeout := by decide +kernel

/-- **C11, TimeoutError only if the operation really blocked for the whole budget.**  If `_retry` raises TimeoutError
    then the timeout was finite, at least `T` ticks have elapsed since the call, and the last attempt of the callback
    blocked (so whatever was available before the budget ran out has been returned instead). -/
theorem C11_timeout_only_if_blocked (cls : SockEv → Cls) (o : Obs) (ho : o.isSelect = false) (hl : o.isLockWait = false)
    (ri : Tmo) (sock : List SockCall) (t : Tmo) (w : World)
    (hto : (retry cls o ri sock t w).out = .timeout) :
    (∃ tv, t = some tv ∧ w.now + tv ≤ (retry cls o ri sock t w).w.now) ∧
    (∃ pre c blk, sock = pre ++ c :: (retry cls o ri sock t w).rest ∧ cls c.ev = .block blk) := by
  refine ⟨?_, retry_timeout_blocked hto⟩
  cases t with
  | none => exact absurd hto retry_none_no_timeout
  | some tv =>
    exact ⟨tv, rfl, (retry_call cls o ho hl ri sock tv w).spent (congrArg Outcome.isTimeout hto)⟩

example : (dgramRecv none 64 (some 3) [⟨.eagain, 0⟩, ⟨.eintr, 0⟩] { sel := [.ready 1, .expired 0] }).out = .timeout := by
  decide +kernel

/-- **C11, `recv_packet`.**  `endpoint.recv_packet(timeout=T)` with finite `T`, for every arrival schedule and every
    consumer: time spent waiting ≤ `T`; elapsed = waiting + over-sleep + processing; TimeoutError only once `T` has
    elapsed.  Without timeout (`None`) TimeoutError is never raised. -/
theorem C11_receive_budget {κ : Type} (fl : Flavour) (ri : Tmo) (room : κ → Nat) (next : κ → Bytes → κ × Option Item)
    (cons : κ) (eof : Bool) (sock : List SockCall) (w : World) :
    (∀ tv,
      (receive fl ri room next cons eof (some tv) sock w).w.waited ≤ w.waited + tv ∧
      (receive fl ri room next cons eof (some tv) sock w).w.now + (w.waited + w.over + w.proc) =
        w.now + ((receive fl ri room next cons eof (some tv) sock w).w.waited +
                 (receive fl ri room next cons eof (some tv) sock w).w.over +
                 (receive fl ri room next cons eof (some tv) sock w).w.proc) ∧
      ((receive fl ri room next cons eof (some tv) sock w).out = .timeout →
        w.now + tv ≤ (receive fl ri room next cons eof (some tv) sock w).w.now)) ∧
    (receive fl ri room next cons eof none sock w).out ≠ .timeout := by
  refine ⟨fun tv => ?_, receive_none_no_timeout fl ri room next cons eof sock w⟩
  have h := receive_good fl ri room next cons eof tv sock w
  exact ⟨h.budget, h.elapsed, fun ht => h.spent (congrArg RecvOut.isTimeout ht)⟩

/-- non-vacuity: a 3-byte line drip-fed one byte per wake-up, 2 ticks each; with budget 4 nothing is left for the
    third wake-up, with budget 5 it is still tried (and the packet is returned) -/
example : (receive .plain none (fun _ => 4) toyNext [] false (some 4)
    [⟨.eagain, 0⟩, ⟨.data [97], 0⟩, ⟨.eagain, 0⟩, ⟨.data [98], 0⟩, ⟨.eagain, 0⟩, ⟨.data [10], 0⟩]
    { sel := [.ready 2, .ready 2, .ready 2] }).out = .timeout ∧
    (receive .plain none (fun _ => 4) toyNext [] false (some 5)
    [⟨.eagain, 0⟩, ⟨.data [97], 0⟩, ⟨.eagain, 0⟩, ⟨.data [98], 0⟩, ⟨.eagain, 0⟩, ⟨.data [10], 0⟩]
    { sel := [.ready 2, .ready 1, .ready 1] }).out = .pkt (.frame [97, 98]) := by decide +kernel

/-- **C11, `send_packet`.**  Same budget statement for the send paths (send_all, sendmsg loop, TLS), with or without
    the C04 fix. -/
theorem C11_send_budget (tr : Transport) (fix : Bool) (iov : Int) (ri : Tmo) (chunks : List Bytes) (tv : Nat)
    (sock : List SockCall) (w : World) :
    (sendPacket tr fix iov ri chunks (some tv) sock w).2.waited ≤ w.waited + tv ∧
    (sendPacket tr fix iov ri chunks (some tv) sock w).2.now + (w.waited + w.over + w.proc) =
      w.now + ((sendPacket tr fix iov ri chunks (some tv) sock w).2.waited +
               (sendPacket tr fix iov ri chunks (some tv) sock w).2.over +
               (sendPacket tr fix iov ri chunks (some tv) sock w).2.proc) ∧
    ((sendPacket tr fix iov ri chunks (some tv) sock w).1 = .timeout →
      w.now + tv ≤ (sendPacket tr fix iov ri chunks (some tv) sock w).2.now) := by
  have h := sendPacket_good tr fix iov ri chunks tv sock w
  exact ⟨h.budget, h.elapsed, fun ht => h.spent (congrArg Outcome.isTimeout ht)⟩

example : (sendPacket .sendmsg true 1024 none [[1, 2, 3]] (some 2) [⟨.sent 1, 0⟩, ⟨.eagain, 0⟩, ⟨.sent 1, 0⟩, ⟨.eintr, 0⟩]
    { sel := [.ready 2] }).1 = .timeout := by decide +kernel

/-- **C11, the lock acquisition is part of the budget.**  `client.recv_packet(timeout=T)` / `client.send_packet(…, timeout=T)`
    of the TCP client, whatever the contention on the lock: lock waiting + select waiting ≤ `T`; elapsed = lock
    waiting + select waiting + over-sleep + processing; TimeoutError only once `T` has elapsed. -/
theorem C11_lock_included {κ : Type} (fl : Flavour) (ri : Tmo) (room : κ → Nat) (next : κ → Bytes → κ × Option Item)
    (ev : LockEv) (cons : κ) (eof : Bool) (tv : Nat) (sock : List SockCall) (w : World)
    (tr : Transport) (fix : Bool) (iov : Int) (chunks : List Bytes) :
    ((clientRecv fl ri room next (some ev) cons eof (some tv) sock w).w.waited +
       (clientRecv fl ri room next (some ev) cons eof (some tv) sock w).w.lockw ≤ w.waited + w.lockw + tv ∧
     (clientRecv fl ri room next (some ev) cons eof (some tv) sock w).w.now + (w.waited + w.lockw + w.over + w.proc) =
       w.now + ((clientRecv fl ri room next (some ev) cons eof (some tv) sock w).w.waited +
                (clientRecv fl ri room next (some ev) cons eof (some tv) sock w).w.lockw +
                (clientRecv fl ri room next (some ev) cons eof (some tv) sock w).w.over +
                (clientRecv fl ri room next (some ev) cons eof (some tv) sock w).w.proc) ∧
     ((clientRecv fl ri room next (some ev) cons eof (some tv) sock w).out = .timeout →
       w.now + tv ≤ (clientRecv fl ri room next (some ev) cons eof (some tv) sock w).w.now)) ∧
    ((clientSend tr fix iov ri (some ev) chunks (some tv) sock w).2.waited +
       (clientSend tr fix iov ri (some ev) chunks (some tv) sock w).2.lockw ≤ w.waited + w.lockw + tv ∧
     ((clientSend tr fix iov ri (some ev) chunks (some tv) sock w).1 = .timeout →
       w.now + tv ≤ (clientSend tr fix iov ri (some ev) chunks (some tv) sock w).2.now)) := by
  have h := clientRecv_fin fl ri room next (some ev) cons eof tv sock w
  have hs := clientSend_fin tr fix iov ri (some ev) chunks tv sock w
  exact ⟨⟨h.budget, h.elapsed, fun ht => h.spent (congrArg RecvOut.isTimeout ht)⟩,
         hs.budget, fun ht => hs.spent (congrArg Outcome.isTimeout ht)⟩

/-- non-vacuity: the lock is released after 3 of the 5 ticks; the remaining 2 are exactly enough for the select;
    if the data only comes after those 2 ticks the call times out -/
example : (clientRecv .plain none (fun _ => 4) toyNext (some (.busy 3)) [] false
    (some 5) [⟨.eagain, 0⟩, ⟨.data [97, 10], 0⟩] { sel := [.ready 2] }).out = .pkt (.frame [97]) ∧
    (clientRecv .plain none (fun _ => 4) toyNext (some (.busy 3)) [] false
    (some 5) [⟨.eagain, 0⟩, ⟨.data [97, 10], 0⟩] { sel := [.expired 0] }).out = .timeout := by decide +kernel

/-- **C11, the iterator carries the remaining budget across packets.**  A `for` loop over
    `client.iter_received_packets(timeout=T)` (any number of `next()` calls, any application time between them, any
    lock contention and arrival schedule per call): the time spent waiting in select() and on the lock, summed over
    ALL the calls, is at most `T`; nothing is spent in unbounded waits. -/
theorem C11_iter_budget {κ : Type} (fl : Flavour) (ri : Tmo) (room : κ → Nat) (next : κ → Bytes → κ × Option Item)
    (ns : List NextCall) (cons : κ) (eof : Bool) (tv : Nat) (w : World) :
    (iterRun fl ri room next ns cons eof (some tv) w).2.waited +
      (iterRun fl ri room next ns cons eof (some tv) w).2.lockw ≤ w.waited + w.lockw + tv ∧
    (iterRun fl ri room next ns cons eof (some tv) w).2.unbounded = w.unbounded := by
  induction ns generalizing cons eof tv w with
  | nil => exact ⟨Nat.le_add_right .., rfl⟩
  | cons n ns ih =>
    have hfin := clientRecv_fin fl ri room next (some n.lk) cons eof tv n.sock
      { w with sel := n.sel, now := w.now + n.gap }
    simp only [iterRun, iterNext]
    generalize clientRecv fl ri room next (some n.lk) cons eof (some tv) n.sock _ = R at hfin ⊢
    split
    · obtain ⟨i1, i2⟩ := ih R.cons R.eof (tv - (R.w.now - (w.now + n.gap))) R.w
      exact ⟨budget_carry hfin.budget hfin.slack i1, i2.trans hfin.unb⟩
    · exact ⟨hfin.budget, hfin.unb⟩

/-- non-vacuity: budget 6; the first packet costs 3 ticks, 5 ticks of application time pass (not deducted), the second
    costs 2, for the third only 1 tick is left and nothing arrives within it: the loop ends -/
example : (iterRun .plain none (fun _ => 4) toyNext
    [⟨0, .free, [⟨.eagain, 0⟩, ⟨.data [97, 10], 0⟩], [.ready 3]⟩,
     ⟨5, .free, [⟨.eagain, 0⟩, ⟨.data [98, 10], 0⟩], [.ready 2]⟩,
     ⟨0, .free, [⟨.eagain, 0⟩, ⟨.data [99, 10], 0⟩], [.expired 0]⟩]
    [] false (some 6) { sel := [] }).1 = [.pkt (.frame [97]), .pkt (.frame [98]), .timeout] := by
  decide +kernel

/-- **C11, the datagram client.**  `UDPNetworkClient.recv_packet(timeout=T)` / `send_packet(…, timeout=T)` whatever the
    contention on the client's lock (free, busy for `d` ticks, or no lock = the bare datagram transport), for every
    socket / selector script and retry interval: lock waiting + select waiting ≤ `T`, nothing is spent in an unbounded
    wait, the elapsed time is exactly lock waiting + select waiting + over-sleep + processing, `T = 0` performs no
    select() and no blocking lock acquisition, TimeoutError only once `T` has elapsed, and a call that could not get the
    lock within the budget never touches the socket. -/
theorem C11_udp_client_budget (ri : Tmo) (bufsize : Nat) (data : Bytes) (lk : Option LockEv) (tv : Nat)
    (sock : List SockCall) (w : World) :
    ((udpClientRecv ri bufsize lk (some tv) sock w).w.waited + (udpClientRecv ri bufsize lk (some tv) sock w).w.lockw
        ≤ w.waited + w.lockw + tv ∧
     (udpClientRecv ri bufsize lk (some tv) sock w).w.unbounded = w.unbounded ∧
     (udpClientRecv ri bufsize lk (some tv) sock w).w.now + (w.waited + w.lockw + w.over + w.proc) =
       w.now + ((udpClientRecv ri bufsize lk (some tv) sock w).w.waited + (udpClientRecv ri bufsize lk (some tv) sock w).w.lockw +
                (udpClientRecv ri bufsize lk (some tv) sock w).w.over + (udpClientRecv ri bufsize lk (some tv) sock w).w.proc) ∧
     (tv = 0 → (udpClientRecv ri bufsize lk (some tv) sock w).w.nsel = w.nsel ∧
               (udpClientRecv ri bufsize lk (some tv) sock w).w.nlockw = w.nlockw) ∧
     ((udpClientRecv ri bufsize lk (some tv) sock w).out = .timeout →
       w.now + tv ≤ (udpClientRecv ri bufsize lk (some tv) sock w).w.now)) ∧
    ((udpClientSend ri data lk (some tv) sock w).w.waited + (udpClientSend ri data lk (some tv) sock w).w.lockw
        ≤ w.waited + w.lockw + tv ∧
     (udpClientSend ri data lk (some tv) sock w).w.unbounded = w.unbounded ∧
     (tv = 0 → (udpClientSend ri data lk (some tv) sock w).w.nsel = w.nsel ∧
               (udpClientSend ri data lk (some tv) sock w).w.nlockw = w.nlockw) ∧
     ((udpClientSend ri data lk (some tv) sock w).out = .timeout →
       w.now + tv ≤ (udpClientSend ri data lk (some tv) sock w).w.now)) ∧
    (∀ ev t w', lockWithTimeout ev t w = .timeout w' →
      (udpClientRecv ri bufsize (some ev) t sock w).rest = sock ∧ (udpClientSend ri data (some ev) t sock w).rest = sock ∧
      (udpClientRecv ri bufsize (some ev) t sock w).out = .timeout ∧ (udpClientSend ri data (some ev) t sock w).out = .timeout) := by
  have h := udpClientRecv_fin ri bufsize lk tv sock w
  have hs := udpClientSend_fin ri data lk tv sock w
  refine ⟨⟨h.budget, h.unb, h.elapsed, h.zero, fun ht => h.spent (congrArg Outcome.isTimeout ht)⟩,
          ⟨hs.budget, hs.unb, hs.zero, fun ht => hs.spent (congrArg Outcome.isTimeout ht)⟩, fun ev t w' hl => ?_⟩
  obtain ⟨a, b, _, c, d, _⟩ := udpClient_lock_timeout_no_io ri bufsize data ev t sock w w' hl
  exact ⟨b, d, a, c⟩

/-- non-vacuity: the receive lock is released after 3 of the 5 ticks, the remaining 2 are exactly enough for the datagram
    to arrive; with a lock held for 6 ticks the call times out after 5 without any socket call; with a zero budget and a busy
    lock nothing is waited for at all -/
example : (udpClientRecv none 64 (some (.busy 3)) (some 5) [⟨.eagain, 0⟩, ⟨.data [7], 0⟩] { sel := [.ready 2] }).out = .ok ∧
    (udpClientRecv none 64 (some (.busy 3)) (some 5) [⟨.eagain, 0⟩, ⟨.data [7], 0⟩] { sel := [.ready 2] }).w.now = 5 ∧
    (udpClientRecv none 64 (some (.busy 6)) (some 5) [⟨.data [7], 0⟩] { sel := [] }).out = .timeout ∧
    (udpClientRecv none 64 (some (.busy 6)) (some 5) [⟨.data [7], 0⟩] { sel := [] }).rest = [⟨.data [7], 0⟩] ∧
    (udpClientRecv none 64 (some (.busy 6)) (some 0) [⟨.data [7], 0⟩] { sel := [] }).w.now = 0 := by decide +kernel

/-- **C11, lock discipline of the blocking clients.**  `lock_with_timeout` releases the lock exactly when it acquired it, and
    as the last thing the call does:
    * datagram client (`UDPNetworkClient`): when the lock was obtained, the call logs exactly one `lock.release()` more than
      before — the newest entry of the log — whatever the socket and selector scripts did (success, TimeoutError, OSError);
      when the lock was not obtained within the budget nothing is released (the lock still belongs to its holder);
    * stream client (`TCPNetworkClient`): the world after the call is the world of the endpoint call followed by one release
      when the lock was obtained, and the world of the failed acquisition (no release, no socket call) otherwise. -/
theorem C11_lock_released_iff_acquired {κ : Type} (fl : Flavour) (ri : Tmo) (room : κ → Nat) (next : κ → Bytes → κ × Option Item)
    (cons : κ) (eof : Bool) (tr : Transport) (fix : Bool) (iov : Int) (chunks : List Bytes)
    (bufsize : Nat) (data : Bytes) (ev : LockEv) (t : Tmo) (sock : List SockCall) (w : World) :
    (match lockWithTimeout ev t w with
     | .acquired t' w' =>
        (udpClientRecv ri bufsize (some ev) t sock w).w.nrel = w.nrel + 1 ∧
        (udpClientSend ri data (some ev) t sock w).w.nrel = w.nrel + 1 ∧
        (udpClientRecv ri bufsize (some ev) t sock w).w.log.head? = some .lockRelease ∧
        (udpClientSend ri data (some ev) t sock w).w.log.head? = some .lockRelease ∧
        (clientRecv fl ri room next (some ev) cons eof t sock w).w = (receive fl ri room next cons eof t' sock w').w.lockRelease ∧
        (clientSend tr fix iov ri (some ev) chunks t sock w).2 = (sendPacket tr fix iov ri chunks t' sock w').2.lockRelease
     | .timeout w' =>
        (udpClientRecv ri bufsize (some ev) t sock w).w.nrel = w.nrel ∧
        (udpClientSend ri data (some ev) t sock w).w.nrel = w.nrel ∧
        (clientRecv fl ri room next (some ev) cons eof t sock w).w = w' ∧
        (clientSend tr fix iov ri (some ev) chunks t sock w).2 = w' ∧
        (clientRecv fl ri room next (some ev) cons eof t sock w).out = .timeout ∧
        (clientSend tr fix iov ri (some ev) chunks t sock w).1 = .timeout) := by
  have hu := udpClient_release_count ri bufsize data ev t sock w
  cases hr : lockWithTimeout ev t w with
  | timeout w' =>
    rw [hr] at hu
    exact ⟨hu.1, hu.2, by simp only [clientRecv, hr], by simp only [clientSend, hr], by simp only [clientRecv, hr], by simp only [clientSend, hr]⟩
  | acquired t' w' =>
    rw [hr] at hu
    exact ⟨hu.1, hu.2.1, hu.2.2.1, hu.2.2.2, by simp only [clientRecv, hr], by simp only [clientSend, hr]⟩

/-- non-vacuity: a receive that times out on the socket after it got the lock still releases it (newest log entry); a
    receive that could not get the lock releases nothing -/
example : (udpClientRecv none 64 (some (.busy 1)) (some 3) [⟨.eagain, 0⟩] { sel := [.expired 0] }).out = .timeout ∧
    (udpClientRecv none 64 (some (.busy 1)) (some 3) [⟨.eagain, 0⟩] { sel := [.expired 0] }).w.log.head? = some .lockRelease ∧
    (udpClientRecv none 64 (some (.busy 9)) (some 3) [⟨.eagain, 0⟩] { sel := [.expired 0] }).w.log.head? = some (.lockWait (some 3)) := by
  decide +kernel

end EasyNet

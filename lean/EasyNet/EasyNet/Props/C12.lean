/-
  C12 — Concurrent senders never interleave packets.
  Property theorems (lemmas: EasyNet/Lemmas/Senders*.lean, TlsSend.lean; model: EasyNet/Model/Senders.lean, TlsSend.lean).

  The model is the interleaving transition system `EasyNet.C12.step`: any number of sender tasks, each between two
  awaits of  `async with send_lock: … with send_guard: await transport.send_all_from_iterable(chunks)`,
  the lock being a statement-level copy of `FairLock`, the guard of `ResourceGuard`, and the transport writing
  an arbitrary number of bytes (`write t n`) before suspending the sender again, as often as it likes.
  A *schedule* is any list of events; `run cfg Sys.init evs = some s` says every event was possible when it
  happened, so the theorems quantify over all interleavings, all partial-write patterns, all packet lists,
  any number of senders, and all cancellations of senders parked in the lock.
-/
import EasyNet.Lemmas.SendersLock
import EasyNet.Lemmas.TlsSend
namespace EasyNet.C12
open EasyNet

/-- a schedule used by the non-vacuity examples: three senders, sender 0 sends two packets.
    s0 takes the lock and is suspended inside its first packet after 1 byte; s1 and s2 park; s2 is cancelled while
    parked; s0 finishes (two more partial writes), the lock is handed to s1 while s0 comes back and queues behind it. -/
def exCfg : Cfg :=
  { useLock := true,
    packets := fun t => if t = 0 then [[1, 2, 3], [4]] else if t = 1 then [[5, 6]] else if t = 2 then [[7]] else [] }

def exEvs : List Ev :=
  [.send 0, .xmit 0, .write 0 1, .send 1, .send 2, .write 0 1, .cancel 2, .write 0 5, .ret 0,
   .send 0, .resume 1, .xmit 1, .write 1 1, .write 1 1, .ret 1, .resume 0, .xmit 0, .write 0 9, .ret 0]

/-- is this a step of the system itself (as opposed to a new call or a cancellation coming from outside)? -/
def Ev.internal : Ev → Bool
  | .send _ => false
  | .cancel _ => false
  | _ => true

theorem LockInv.progress {cfg : Cfg} {s : Sys} (hl : LockInv s) {t : Tid} (ht : s.pc t ≠ .idle) :
    ∃ e, e.internal = true ∧ (C12.step cfg s e).isSome = true := by
  have owner : ∀ u, (s.pc u).crit = true → ∃ e, e.internal = true ∧ (C12.step cfg s e).isSome = true := by
    intro u hu
    cases hpc : s.pc u with
    | idle => rw [hpc] at hu; cases hu
    | waiting => rw [hpc] at hu; cases hu
    | holding => exact ⟨.xmit u, rfl, congrArg Option.isSome (if_pos hpc)⟩
    | sending r =>
      cases r with
      | nil => exact ⟨.ret u, rfl, congrArg Option.isSome (if_pos hpc)⟩
      | cons b r => exact ⟨.write u 1, rfl, by rw [C12.step, hpc]; rfl⟩
  cases hpc : s.pc t with
  | idle => exact absurd hpc ht
  | holding => exact owner t (by rw [hpc]; rfl)
  | sending r => exact owner t (by rw [hpc]; rfl)
  | waiting =>
    cases hlk : s.lock.locked with
    | true =>
      obtain ⟨u, hu⟩ := hl.locked.1 hlk
      exact owner u hu
    | false =>
      -- the queue is not empty (`t` is in it), so its head is set and is a parked sender
      cases hws : s.lock.waiters with
      | nil => have := (hl.waiting t).1 hpc; rw [hws] at this; cases this
      | cons w rest =>
        have hset : w.2 = true := hl.headSet hlk w (by rw [hws]; rfl)
        have hwait : s.pc w.1 = .waiting := (hl.waiting w.1).2 (by rw [hws]; exact List.mem_cons_self ..)
        have : s.lock.isSet w.1 = true := by
          rw [FairLock.isSet, hws, List.any_cons, hset, beq_self_eq_true]; rfl
        exact ⟨.resume w.1, rfl, congrArg Option.isSome (if_pos ⟨hwait, this⟩)⟩

end EasyNet.C12

namespace EasyNet
open EasyNet.C12

/-- **C12, main sentence.**  For every configuration (with or without the lock above the endpoint), every number of
    senders and every schedule: the bytes on the wire are the completed packets, whole and in completion order,
    followed by a prefix `pre` of the one packet currently being written (empty when nobody is inside the transport);
    and for every sender the packets it has on the wire are exactly its successful calls, each once, in call order
    (`okIdx` lists the indices of the calls that returned normally; it is strictly increasing). -/
theorem C12_contiguous (cfg : Cfg) (evs : List Ev) (s : Sys) (h : run cfg Sys.init evs = some s) :
    (∃ pre, s.wire = flat cfg s.order ++ pre ∧
        (∀ t r, s.pc t = .sending r → cfg.pkt t (s.idx t) = pre ++ r) ∧
        ((∀ t, (s.pc t).isSending = false) → pre = [])) ∧
    (∀ t, (s.order.filter (fun p => p.1 == t)).map (·.2) = okIdx (s.res t) 0) ∧
    (∀ t, ((s.order.filter (fun p => p.1 == t)).map (·.2)).Pairwise (· < ·)) := by
  have hw := (WireInv.init cfg).run h
  exact ⟨hw.wire, hw.ord, fun t => hw.ord t ▸ okIdx_pairwise _ _⟩

example : (run exCfg Sys.init exEvs).map (fun s => (s.wire, s.order)) =
    some ([1, 2, 3, 5, 6, 4], [(0, 0), (1, 0), (0, 1)]) := by decide +kernel

/-- the same schedule stopped in the middle of s1's packet: one byte of it is on the wire, after s0's whole packet -/
example : (run exCfg Sys.init (exEvs.take 13)).map (fun s => (s.wire, s.order)) =
    some ([1, 2, 3, 5], [(0, 0)]) := by decide +kernel

/-- **C12, quiescent form.**  When no sender is inside `send_packet` any more, the wire is exactly the concatenation
    of the successfully sent packets in an order that is a merge of the per-sender sequences. -/
theorem C12_contiguous_quiescent (cfg : Cfg) (evs : List Ev) (s : Sys) (h : run cfg Sys.init evs = some s)
    (hq : ∀ t, s.pc t = .idle) :
    s.wire = flat cfg s.order ∧ ∀ t, (s.order.filter (fun p => p.1 == t)).map (·.2) = okIdx (s.res t) 0 := by
  obtain ⟨⟨pre, hwire, _, hpre⟩, hord, _⟩ := C12_contiguous cfg evs s h
  obtain rfl : pre = [] := hpre fun t => by rw [hq t]; rfl
  exact ⟨hwire.trans (List.append_nil _), hord⟩

example : (run exCfg Sys.init exEvs).map (fun s => [s.pc 0, s.pc 1, s.pc 2]) = some [.idle, .idle, .idle] := by
  decide +kernel

/-- **Every call succeeds** (client objects: the lock is above the guard).  No `send_packet` call ever ends in
    `BusyResourceError` or in a `RuntimeError` from `release()`, in any schedule. -/
theorem C12_all_succeed (cfg : Cfg) (hul : cfg.useLock = true) (evs : List Ev) (s : Sys)
    (h : run cfg Sys.init evs = some s) : ∀ t, ∀ o ∈ s.res t, o.failed = false :=
  (inv_init hul h).2.noFail

example : (run exCfg Sys.init exEvs).map (fun s => [s.res 0, s.res 1, s.res 2]) =
    some [[.ok, .ok], [.ok], [.cancelled]] := by decide +kernel

/-- without the lock the guard does refuse (so `C12_all_succeed` is not vacuous): second caller gets `busy`,
    and the wire still carries only the whole packet of the first one (`C12_contiguous` covers this mode too) -/
example : (run { exCfg with useLock := false } Sys.init [.send 0, .write 0 1, .send 1, .write 0 5, .ret 0]).map
    (fun s => (s.wire, s.res 0, s.res 1)) = some ([1, 2, 3], [.ok], [.busy]) := by decide +kernel

/-- **FairLock: mutual exclusion.**  At most one sender owns the lock (is between acquire and release), and
    `_locked` is true exactly then. -/
theorem C12_fairlock_mutex (cfg : Cfg) (hul : cfg.useLock = true) (evs : List Ev) (s : Sys)
    (h : run cfg Sys.init evs = some s) :
    (∀ t u, (s.pc t).crit = true → (s.pc u).crit = true → t = u) ∧
    (s.lock.locked = true ↔ ∃ t, (s.pc t).crit = true) :=
  let hl := (inv_init hul h).2
  ⟨hl.one, hl.locked⟩

/-- **FairLock: first come, first served.**  `acquire()` calls are numbered in call order (`ticket`);
    the lock is granted in strictly increasing ticket order, and every sender still queued holds a later ticket than
    every grant so far, in queue order — also when queued senders are cancelled in between. -/
theorem C12_fairlock_fifo (cfg : Cfg) (hul : cfg.useLock = true) (evs : List Ev) (s : Sys)
    (h : run cfg Sys.init evs = some s) :
    (s.granted ++ s.lock.waiters.map (fun w => s.ticket w.1)).Pairwise (· < ·) :=
  (inv_init hul h).2.tickets

example : (run exCfg Sys.init exEvs).map (fun s => s.granted) = some [0, 1, 3] := by decide +kernel
example : (run exCfg Sys.init (exEvs.take 10)).map (fun s => (s.granted, s.lock.waiters)) =
    some ([0], [(1, true), (0, false)]) := by decide +kernel

/-- **FairLock: no lost wake-up.**  Whenever the lock is free and somebody is queued, the head of the queue has its
    event set (so the loop will resume it), in every schedule including cancellations of waiters; only the head is
    ever set; and the queued senders are exactly the senders parked in `acquire()`. -/
theorem C12_fairlock_no_lost_wakeup (cfg : Cfg) (hul : cfg.useLock = true) (evs : List Ev) (s : Sys)
    (h : run cfg Sys.init evs = some s) :
    (s.lock.locked = false → ∀ w, s.lock.waiters.head? = some w → w.2 = true) ∧
    (∀ w ∈ s.lock.waiters.tail, w.2 = false) ∧
    (∀ t, s.pc t = .waiting ↔ t ∈ s.lock.waiters.map (·.1)) :=
  let hl := (inv_init hul h).2
  ⟨hl.headSet, hl.tailUnset, hl.waiting⟩

/-- the cancelled waiter was the one about to be woken: the wake-up is passed on (state after `.cancel 2` in a
    schedule where s2 queues first) -/
example : (run exCfg Sys.init [.send 0, .send 2, .send 1, .rel 0, .cancel 2]).map (fun s => (s.lock.locked, s.lock.waiters)) =
    some (false, [(1, true)]) := by decide +kernel

/-- **No deadlock.**  In every reachable state in which some sender is inside `send_packet`, an internal step is
    possible (the owner can move on, or — the lock being free — the head waiter can be resumed): nobody waits for a
    wake-up that never comes.  Transport writes are assumed to be eventually offered (`write t n` with `n ≥ 1`). -/
theorem C12_no_deadlock (cfg : Cfg) (hul : cfg.useLock = true) (evs : List Ev) (s : Sys)
    (h : run cfg Sys.init evs = some s) (t : Tid) (ht : s.pc t ≠ .idle) :
    ∃ e, e.internal = true ∧ (step cfg s e).isSome = true :=
  (inv_init hul h).2.progress ht

example : (run exCfg Sys.init (exEvs.take 10)).map (fun s => (s.pc 0, s.lock.locked, (step exCfg s (.resume 1)).isSome)) =
    some (.waiting, false, true) := by decide +kernel

/-- TLS schedule for the non-vacuity examples: s0 flushes its packet in two pieces; meanwhile s1 and s2 write theirs
    to the SSL object and park on the send lock; s1, resumed, flushes the ciphertext of both; s2 finds nothing left. -/
def C12.exTls : List TEv :=
  [.send 0, .write 0 2, .send 1, .send 2, .write 0 9, .ret 0, .resume 1, .write 1 1, .write 1 9, .ret 1, .resume 2]

/-- **TLS transport: backlog order.**  For every schedule of concurrent `send_all` / `send_all_from_iterable` callers:
    what the lower transport has written, followed by the blob being written, followed by what still waits in the
    write BIO, is the data of all calls, whole, in the order the calls were made (so each call's bytes are contiguous
    and each caller's calls keep their order); only the owner of the send lock is flushing; and once every call has
    returned everything is on the lower transport. -/
theorem C12_tls_backlog_order (cfg : Cfg) (evs : List TEv) (s : TlsSys) (h : trun cfg TlsSys.init evs = some s) :
    s.twire ++ s.inflight ++ s.bio = flat cfg s.calls ∧
    (∀ t, (s.calls.filter (fun p => p.1 == t)).map (·.2) =
        List.range (s.base.idx t + (if s.base.pc t = .idle then 0 else 1))) ∧
    (∀ t u, s.base.pc t = .holding → s.base.pc u = .holding → t = u) ∧
    ((∀ t, s.base.pc t = .idle) → s.twire = flat cfg s.calls) := by
  have hi := (TlsInv.init cfg).run h
  exact ⟨hi.data, hi.order, hi.one_holding, hi.flushed⟩

example : (trun exCfg TlsSys.init C12.exTls).map (fun s => (s.twire, s.inflight ++ s.bio, s.calls)) =
    some ([1, 2, 3, 5, 6, 7], [], [(0, 0), (1, 0), (2, 0)]) := by decide +kernel
example : (trun exCfg TlsSys.init C12.exTls).map (fun s => [s.base.pc 0, s.base.pc 1, s.base.pc 2]) =
    some [.idle, .idle, .idle] := by decide +kernel

/-- in the middle: s0's blob half written, the ciphertext of s1 and s2 waiting in the BIO in call order -/
example : (trun exCfg TlsSys.init (C12.exTls.take 4)).map (fun s => (s.twire, s.inflight, s.bio)) =
    some ([1, 2], [3], [5, 6, 7]) := by decide +kernel

end EasyNet

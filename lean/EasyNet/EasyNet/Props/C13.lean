/-
  C13 — Cancel scopes interrupt on time, swallow only their own cancel, honour shields.
  Property theorems only (models in EasyNet/Model/CancelScope.lean, lemmas in EasyNet/Lemmas/CS*.lean).

  The model: CancelScope / cancel_shielded_await / _timeout_scope of EasyNetwork on a mini-asyncio kernel
  (one host task, futures, call_soon / call_at, loop turns), programs = trees of `CS.Stmt`, run by
  `CS.run prog ext extLast fix maxTurns` (ext = ticks of external task.cancel(), extLast = their tie position,
  fix = model of docs/C13-fix-1.patch).  Tied to the Python source by the correspondence check of harness/props/c13.py.

  Quantification: every theorem below is for ALL programs / states named in it, ALL external-cancel schedules and
  ALL run lengths.  `C13_interrupt` is for the programs without shielded sections and without user-level
  `except CancelledError` (the fragment `Stmt.sfList`); what is proved about shields is local (`C13_shield_*`),
  see `C13_interrupt_partial`.
-/
import EasyNet.Lemmas.CSIntFinal
namespace EasyNet
open CS

/-- **C13, interruption.**  For every program built from nested move_on / timeout scopes with arbitrary deadlines,
    sleeps, checkpoints, explicit `scope.cancel()` and `reschedule` (no shielded section), for every list of ticks
    at which an external `task.cancel()` arrives, either tie position, with or without the repair, and every number
    of loop turns: no blocking operation that started while one of its enclosing scopes had `cancel_called()`
    ever completes normally (the ghost monitor `bad` of the model is never raised) — the operation raises
    `CancelledError` at its wake-up, so the body is abandoned at that checkpoint. -/
theorem C13_interrupt (prog : List Stmt) (ext : List Nat) (extLast fix : Bool) (maxTurns : Nat)
    (hsf : Stmt.sfList prog = true) : (run prog ext extLast fix maxTurns).1.bad = false :=
  run_not_bad prog ext extLast fix maxTurns hsf

/-- non-vacuity: `with move_on_after(0): sleep(5)` — the sleep starts under the already cancelled scope
    (`blk 1 0 [true]`), is flagged by the monitor, and is interrupted (`exc 1 2`); the scope catches -/
example :
    Stmt.sfList [.scope 0 false (some 0) false [.sleep 1 5], .yield_ 3] = true ∧
    Ev.blk 1 0 [true] ∈ (run [.scope 0 false (some 0) false [.sleep 1 5], .yield_ 3] [] false false 20).1.out ∧
    Ev.exc 1 2 ∈ (run [.scope 0 false (some 0) false [.sleep 1 5], .yield_ 3] [] false false 20).1.out ∧
    (run [.scope 0 false (some 0) false [.sleep 1 5], .yield_ 3] [] false false 20).1.done = some .ok := by
  decide +kernel

/-- the mechanism behind it, in any state (shields included): when the loop runs a scope's re-delivery callback
    while the task is suspended and no delayed cancel is pending, a cancellation is in flight afterwards
    (`_must_cancel`, or the awaited future is cancelled) and the callback has re-armed itself for the next turn -/
theorem C13_redelivery_requests_cancel (k : K) (s : Nat) (hact : (k.scope s).active = true)
    (hdel : k.delayed = none) (hnd : k.done = none) :
    inflight (k.deliver s false) ∧ Handle.deliver s ∈ (k.deliver s false).ready := by
  fun_cases K.deliver k s false
  case case1 h => rw [hact] at h; cases h
  case case2 hd => rw [hdel] at hd; cases hd
  case case3 hd _ => rw [hdel] at hd; cases hd
  case case4 =>
    exact ⟨(taskCancel_inflight k (some s) hnd).mono (by simp) (by simp) fun f m hm => by simpa using hm,
      by simp [K.callSoon]⟩
  case case5 hmc => exact ⟨Or.inl (by simpa using hmc), by simp [K.callSoon]⟩

example : ((K.init [.sleep 0 3] [] false false).scopeEnter 7 false none true).delayed = none ∧
    (((K.init [.sleep 0 3] [] false false).scopeEnter 7 false none true).scope 0).active = true := by
  decide +kernel

/-- what is *not* proved for all programs: the interruption theorem for programs with shielded sections
    (`ignore_cancellation`, `cancel_shielded_coro_yield`).  Missing: the invariant has to follow the delayed
    cancel (`__delayed_task_cancel_dict`) through the shield drivers (`safe` with the pending-entry bit, the
    adjacency of `delayedCancel`/`delayedPop` in the queue, the futures of `asyncio.shield`).  The statement below
    is the proved fragment restated; the monitor is compared with the real code on every generated program
    (shields included) by the correspondence check, and `C13_shield_*` are the local facts. -/
theorem C13_interrupt_partial (prog : List Stmt) (ext : List Nat) (extLast fix : Bool) (maxTurns : Nat)
    (hsf : Stmt.sfList prog = true) : (run prog ext extLast fix maxTurns).1.bad = false :=
  C13_interrupt prog ext extLast fix maxTurns hsf

/-- **C13, never swallow.**  In any state, `__exit__` of a scope whose `cancel_called()` is false (and which, like
    every such scope, has not caught anything) lets whatever reached it leave unchanged — a CancelledError of an
    outer scope or of an external `task.cancel()` propagates through it —, reports `cancelled_caught() = False`,
    and leaves `task.cancelling()` alone. -/
theorem C13_never_swallow (k : K) (s : Nat) (to : Bool) (e : Option Exc)
    (hcc : (k.pop.scope s).cancelCalled = false) (hcaught : (k.pop.scope s).caught = false) :
    (k.endScope s to e).2 = nextOf e ∧
    ((k.pop.scopeExit s e).scope s).caught = false ∧
    (k.pop.scopeExit s e).numCancels = k.numCancels := by
  have hc : ((k.pop.scopeExit s e).scope s).caught = false ∧ (k.pop.scopeExit s e).numCancels = k.numCancels := by
    rw [K.scopeExit, if_neg (by rw [hcc]; nofun), K.checkPending, scope_eq]
    refine ⟨((checkPendingFrom_keeps _ _).2 s).trans ?_, (checkPendingFrom_keeps _ _).1.trans (by simp)⟩
    rw [updScope_scopes_eq, scopeOf_updAt_proj (·.caught) _ _ _ _ (by intro; rfl)]
    simpa [scope_eq] using hcaught
  exact ⟨by unfold K.endScope exitOut; simp [hc.1], hc⟩

example : ((K.init [] [] false false).scopeEnter 0 false none false).pop.frames.length = 1 ∧
    ((((K.init [] [] false false).scopeEnter 0 false none false).pop).scope 0).cancelCalled = false ∧
    ((((K.init [] [] false false).scopeEnter 0 false none false).pop).scope 0).caught = false := by
  decide +kernel

/-- **C13, timeout ⇔ caught.**  What leaves a `with` block is decided by `cancelled_caught()` alone:
    `timeout()` raises TimeoutError exactly when its scope caught (or a TimeoutError was already travelling),
    a move-on scope swallows exactly when it caught, and a scope that did not catch passes everything through. -/
theorem C13_timeout_iff_caught (k : K) (s : Nat) (to : Bool) (e : Option Exc) :
    (k.endScope s to e).2 = nextOf (exitOut ((k.pop.scopeExit s e).scope s).caught to e) ∧
    (∀ caught, exitOut caught true e = some .timeout ↔ (caught = true ∨ e = some .timeout)) ∧
    (∀ caught, exitOut caught false e = none ↔ (caught = true ∨ e = none)) ∧
    (∀ to', exitOut false to' e = e) := by
  refine ⟨rfl, fun caught => ?_, fun caught => ?_, fun to' => rfl⟩
  · cases caught <;> simp [exitOut]
  · cases caught <;> simp [exitOut]

example : exitOut true true (some (.cancelled (some 3))) = some .timeout ∧
    exitOut false true (some (.cancelled none)) = some (.cancelled none) := by decide

/-- **C13, accounting.**  In the state reached by ANY program (shields, try/except, everything) under ANY schedule
    of external cancels after ANY number of turns — unless the model crashed (fuel / AssertionError artefacts,
    never observed) —

        task.cancelling() = external cancel() calls + Σ over all scopes of `__host_task_cancel_calls` + phantom

    so the only way `cancelling()` can exceed the number of external requests after the scopes are gone is a scope
    that left with `__host_task_cancel_calls > 0` (see `C13_exit_undoes_own_calls`: exactly the exits without a
    CancelledError, the defect repaired by docs/C13-fix-1.patch) or a `phantom` re-issue. -/
theorem C13_no_leftover (prog : List Stmt) (ext : List Nat) (extLast fix : Bool) (maxTurns : Nat)
    (hnc : (run prog ext extLast fix maxTurns).1.done ≠ some .crash) :
    (run prog ext extLast fix maxTurns).1.numCancels =
      (run prog ext extLast fix maxTurns).1.extCount + sumCalls (run prog ext extLast fix maxTurns).1.scopes +
        (run prog ext extLast fix maxTurns).1.phantom := by
  rcases run_Good prog ext extLast fix maxTurns with h | h
  · exact absurd h hnc
  · exact h.acct

/-- non-vacuity, and the defect itself: `with move_on_after(0): await ignore_cancellation(sleep(3))` ends normally
    with cancelling() = 3 on the unrepaired model (3 own calls never undone) and 0 with the repair -/
example :
    (run [.scope 0 false (some 0) false [.shield 1 [.sleep 2 3]]] [] false false 30).1.done = some .ok ∧
    (run [.scope 0 false (some 0) false [.shield 1 [.sleep 2 3]]] [] false false 30).1.numCancels = 3 ∧
    sumCalls (run [.scope 0 false (some 0) false [.shield 1 [.sleep 2 3]]] [] false false 30).1.scopes = 3 ∧
    (run [.scope 0 false (some 0) false [.shield 1 [.sleep 2 3]]] [] false true 30).1.numCancels = 0 := by
  decide +kernel

/-- **C13, `__exit__` uncancels exactly its own requests.**  When a CancelledError reaches `__exit__`, the loop of
    `__uncancel_task` (started with the scope's own call count, in a balanced state) keeps the balance and ends
    with no own request left, or stops early reporting "caught" with `cancelling()` back at the level of entry. -/
theorem C13_exit_undoes_own_calls (k : K) (s : Nat) (m : Msg) (hA : AInv k) :
    AInv (k.uncancelLoop s m (scopeOf k.scopes s).calls).1 ∧
    ((scopeOf (k.uncancelLoop s m (scopeOf k.scopes s).calls).1.scopes s).calls = 0 ∨
      ((k.uncancelLoop s m (scopeOf k.scopes s).calls).2 = true ∧
        (k.uncancelLoop s m (scopeOf k.scopes s).calls).1.numCancels ≤ (scopeOf k.scopes s).base)) :=
  uncancelLoop_AInv s m _ k hA rfl

example : AInv (K.init [] [] false false) := by
  rcases init_Good [] [] false false with h | h
  · simp [Crashed, K.init, addExt, K.callSoon] at h
  · exact h

/-- **C13, shield (bare yield).**  A CancelledError thrown at a `yield None` of the driver of
    `cancel_shielded_await` never reaches the shielded coroutine: the frames below are resumed normally, in the
    state where the swallowed cancellation has been handed to `_reschedule_delayed_task_cancel`. -/
theorem C13_shield_swallows_at_yield (id : Nat) (yl : Bool) (lastC : Option Msg) (rest : List Frame) (m : Msg) (k : K) :
    (resumeOuter (.shieldF id yl none lastC :: rest) (.cancelled m) k).2.2 =
      (match (resumeOuter rest .ok (k.reschedDelayed m)).2.1 with
       | .go _ => (resumeOuter rest .ok (k.reschedDelayed m)).2.2
       | .susp y => (shieldWrap id y (resumeOuter rest .ok (k.reschedDelayed m)).2.2).2.2) := by
  simp only [resumeOuter, K.reschedOpt]
  split <;> (rename_i h; simp [h])

/-- **C13, shield (awaited future).**  While the future awaited inside the shielded coroutine is pending, a
    CancelledError only makes the driver shield it again (`asyncio.shield` on a fresh outer future): the frames
    below are not touched and the message is remembered for later. -/
theorem C13_shield_keeps_waiting (id : Nat) (yl : Bool) (lastC : Option Msg) (rest : List Frame) (m : Msg) (k : K) (f : Nat)
    (hp : k.futState f = .pending) :
    (resumeOuter (.shieldF id yl (some f) lastC :: rest) (.cancelled m) k).1 = .shieldF id yl (some f) (some m) :: rest ∧
    (resumeOuter (.shieldF id yl (some f) lastC :: rest) (.cancelled m) k).2.1 = .susp (.fut k.futs.length) := by
  simp [resumeOuter, hp]

/-- non-vacuity: a freshly created future is pending -/
example : ((K.init [] [] false false).newFut).futState 0 = .pending := by decide +kernel

section
set_option linter.unusedVariables false

/-- **C13, the swallowed cancellation is delivered at the next checkpoint.**  `_reschedule_delayed_task_cancel`
    queues `__cancel_task_unless_done` for the next turn, and when the loop runs it on a live task a cancellation
    is in flight: the next unshielded checkpoint raises. -/
theorem C13_swallowed_cancel_redelivered (k : K) (m : Msg) (hd : k.delayed = none) (hnd : k.done = none) :
    (k.reschedDelayed m).delayed = some m ∧ Handle.delayedCancel m ∈ (k.reschedDelayed m).ready ∧
    (∀ k' : K, k'.done = none → inflight (k'.runHandleCore (.delayedCancel m))) := by
  refine ⟨by simp [K.reschedDelayed, hd, K.callSoon], by simp [K.reschedDelayed, hd, K.callSoon], fun k' hnd' => ?_⟩
  rw [runHandleCore_delayedCancel, if_neg (by simp [hnd'])]
  exact taskCancel_inflight _ m hnd'

end

/-- non-vacuity: the initial state has no delayed cancel and a live task; after the swallow the entry is there -/
example : (K.init [] [] false false).delayed = none ∧ (K.init [] [] false false).done = none ∧
    ((K.init [] [] false false).reschedDelayed (some 4)).delayed = some (some 4) := by decide +kernel

end EasyNet

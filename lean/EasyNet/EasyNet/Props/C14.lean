/-
  C14 — Closing releases the underlying resource at every cancellation point.
  Property theorems only (the analysis and its soundness proof live in EasyNet/Lemmas/ClosePaths.lean).

  Each close path is a program of Model/ClosePaths.lean (tied to the Python source by the correspondence check).
  "For every injection" = for every decision list `ds`, of any length: at each suspension the awaited operation may
  complete, fail with OSError, be cancelled from outside, or be hit by the enclosing scope's deadline; the SSL retry
  loop may run any number of iterations and may end with an SSL error.  The wrapped transport is a parameter
  (`steps` suspensions inside its own aclose, which may end with an error) with the contract
  "aclose() marks closing before its first suspension" — `Tgt.inner i` is that mark.
-/
import EasyNet.Lemmas.ClosePaths
import EasyNet.Lemmas.Listener
namespace EasyNet
open EasyNet.C14

/-- **Soundness of the close-path analysis** (the engine of the theorems below): for every program, every environment
    of enclosing scopes, every decision list and start state — a flag that is set stays set, and whenever the
    analysis says "set on this kind of outcome" the flag is set when the program ends with that outcome. -/
theorem C14_analysis_sound (p : Prog) (env : Env) (ds : List Dec) (st : St) (t : Tgt)
    (h : st.has t = true ∨ guar t p (exec p env ds st).out = true) : (exec p env ds st).st.has t = true :=
  sound t p rfl h

theorem C14_innerClose_all (i s : Nat) (e : Bool) : CAll (.inner i) (innerClose i s e) = true :=
  CAll_ifFlag_mark

/-- **Both halves of a stapled transport are closed** whatever happens while closing either of them: the first close
    failing, being cancelled at any of its suspensions, the forceful close of the second being cancelled too, … -/
theorem C14_stapled_both (s0 : Nat) (e0 : Bool) (s1 : Nat) (e1 : Bool) (ds : List Dec) :
    (run (stapledProg s0 e0 s1 e1) ds).st.has (.inner 0) = true ∧
    (run (stapledProg s0 e0 s1 e1) ds).st.has (.inner 1) = true :=
  -- `rfl`: the analysis, run on this program, answers "set whatever happens"
  ⟨closes_always rfl .., closes_always rfl ..⟩

/-- non-vacuity: closing the send half fails after one suspension, the forceful close of the receive half is itself
    cancelled from outside: both are closed and the cancellation propagates -/
example : (run (stapledProg 1 true 1 false) [.ok, .cancel]).out = .raised .cancel ∧
    (run (stapledProg 1 true 1 false) [.ok, .cancel]).st.has (.inner 1) = true := by decide +kernel

/-- **AsyncStreamEndpoint.aclose** closes its transport on every schedule. -/
theorem C14_endpoint_closes (s : Nat) (e : Bool) (ds : List Dec) :
    (run (endpointProg s e) ds).st.has (.inner 0) = true :=
  closes_always rfl ..

example : (run (endpointProg 2 false) [.ok, .cancel]).out = .raised .cancel := by decide +kernel

/-- **A second `AsyncStreamEndpoint.aclose()` returns promptly and touches nothing**: after a first close that ended in any
    way (returned, failed, cancelled at any suspension) the second one finds the transport closed, goes through at most
    one suspension point (the checkpoint of the already-closed transport's `aclose()`; it consumes at most one scheduling
    decision) and leaves every flag as it was. -/
theorem C14_endpoint_second_close_prompt (s : Nat) (e : Bool) (ds ds2 : List Dec) (env : Env) :
    (exec (endpointProg s e) env ds2 (run (endpointProg s e) ds).st).st = (run (endpointProg s e) ds).st ∧
    ds2.length ≤ (exec (endpointProg s e) env ds2 (run (endpointProg s e) ds).st).ds.length + 1 := by
  have hc := C14_endpoint_closes s e ds
  generalize (run (endpointProg s e) ds).st = st1 at hc ⊢
  -- the transport is found closed: its `aclose()` is one checkpoint, and `finally` adds nothing
  rw [show exec (endpointProg s e) env ds2 st1 = suspend true env ds2 st1 from exec_ifFlag.trans (if_pos hc),
    (suspend_frame ..).1, (suspend_frame ..).2, List.length_tail]
  exact ⟨rfl, by omega⟩

example : (exec (endpointProg 2 false) {} [.cancel, .ok] (run (endpointProg 2 false) [.ok, .cancel]).st).ds = [.ok] := by
  decide +kernel

/-- **TLS aclose** (first close, `standard_compatible` or not): the wrapped transport is closed and the closed event is
    set whether the close-notify exchange completes, fails, runs into the shutdown timeout or is cancelled at any
    suspension — of the exchange, of the forceful close, or of the final `transport.aclose()`. -/
theorem C14_tls_closes (sc : Bool) (s : Nat) (e : Bool) (ds : List Dec) :
    (run (tlsCloseProg sc s e) ds).st.has (.inner 0) = true ∧
    (run (tlsCloseProg sc s e) ds).st.has .closing = true ∧
    (run (tlsCloseProg sc s e) ds).st.has .event = true := by
  -- on fresh flags `aclose()` is the first close
  rw [show run (tlsCloseProg sc s e) ds = exec (tlsFirstProg sc s e) {} ds {} from rfl]
  refine ⟨closes_always ?_ .., closes_always rfl .., closes_always rfl ..⟩
  cases sc <;> rfl

/-- non-vacuity: the peer never answers; the shutdown timeout fires while waiting for its close_notify (second
    suspension of the exchange); the transport is force-closed and `aclose()` returns normally -/
example : (run (tlsCloseProg true 1 false) [.ok, .timeout, .ok]).out = .ok ∧
    (run (tlsCloseProg true 1 false) [.ok, .timeout, .ok]).st.has (.inner 0) = true := by decide +kernel

/-- **A second TLS close returns promptly**: after a first close that ended in any way, `aclose()` completes normally
    without a single suspension (it consumes no decision) and changes nothing. -/
theorem C14_second_close_prompt (sc : Bool) (s : Nat) (e : Bool) (ds ds2 : List Dec) (env : Env) :
    (exec (tlsCloseProg sc s e) env ds2 (run (tlsCloseProg sc s e) ds).st).out = .ok ∧
    (exec (tlsCloseProg sc s e) env ds2 (run (tlsCloseProg sc s e) ds).st).ds = ds2 ∧
    (exec (tlsCloseProg sc s e) env ds2 (run (tlsCloseProg sc s e) ds).st).st = (run (tlsCloseProg sc s e) ds).st := by
  obtain ⟨_, hc, he⟩ := C14_tls_closes sc s e ds
  generalize (run (tlsCloseProg sc s e) ds).st = st1 at hc he ⊢
  rw [tlsCloseProg, exec_ifFlag, if_pos hc, exec_ifFlag, if_pos he]
  exact ⟨rfl, rfl, rfl⟩

example : (run (tlsCloseProg true 0 false) [.cancel]).out = .raised .cancel := by decide +kernel

/-- **A failed or cancelled TLS handshake closes the wrapped transport**: if `wrap()` does not return normally —
    handshake error from the SSL object, OSError from the transport, handshake timeout, cancellation at any
    suspension, including during the forceful close — the transport is closed and marked closing. -/
theorem C14_wrap_failure_closes (s : Nat) (e : Bool) (ds : List Dec)
    (hfail : (run (tlsWrapProg s e) ds).out ≠ .ok) :
    (run (tlsWrapProg s e) ds).st.has (.inner 0) = true ∧ (run (tlsWrapProg s e) ds).st.has .closing = true :=
  ⟨closes_unless_ok rfl _ _ _ hfail, closes_unless_ok rfl _ _ _ hfail⟩

/-- non-vacuity: the SSL object rejects the peer's answer after two suspensions (`fail`) -/
example : (run (tlsWrapProg 1 false) [.ok, .ok, .fail, .ok]).out = .raised .err := by decide +kernel

/-- **AsyncTCPNetworkClient.aclose, as found — partial.**  Proved only for `busy = false` (no other task holds the send
    lock).  What is missing: with `busy = true` the statement is FALSE for the code as found — a cancellation while
    `async with self.__send_lock` is parked leaves the transport open (`tcpClientProg false true`, decisions
    `[cancel]`; reproduced on the real code, finding F7, docs/C14-fix-1.patch).  `C14_tcpclient_fixed_closes` below
    is the full statement for the patched code. -/
theorem C14_tcpclient_closes_partial (s : Nat) (e : Bool) (ds : List Dec) :
    (run (tcpClientProg false false s e) ds).st.has (.inner 0) = true :=
  closes_always rfl ..

/-- the counter-example that makes the statement above partial (model of the code as found) -/
example : (run (tcpClientProg false true 0 false) [.cancel]).st.has (.inner 0) = false := by decide +kernel

/-- **AsyncTCPNetworkClient.aclose with docs/C14-fix-1.patch**: closed on every schedule, busy or not. -/
theorem C14_tcpclient_fixed_closes (busy : Bool) (s : Nat) (e : Bool) (ds : List Dec) :
    (run (tcpClientProg true busy s e) ds).st.has (.inner 0) = true := by
  apply closes_always
  cases busy <;> rfl

example : (run (tcpClientProg true true 0 false) [.cancel]).st.has (.inner 0) = true := by decide +kernel

/-- **C14, the TCP listener of the asyncio backend** (`ListenerSocketAdapter.aclose()`; `AsyncStreamServer.aclose()` and
    `AsyncTLSListener.aclose()` delegate to it).  For EVERY history of accept calls, accept results (a connection, capacity
    errors with their back-off, ignorable errors, other errors), external cancellations of the accepting task, close calls and
    cancellations of a close at its only await:
    * once a close has started and its task is over — it returned, or it was cancelled at its await — the listening socket is
      closed (and while the close is still parked at its await the listener already reports `is_closing()`);
    * cancelling the parked close is a step that is always possible and it closes the socket (`aclose_forcefully`);
    * a second close returns at once without touching anything;
    * an accept in progress when the close starts cannot hang: the step that ends it with EBADF is enabled. -/
theorem C14_listener_close_releases (es : List Lsn.Ev) :
    ((Lsn.run Lsn.St.init es).sockRef = false → (Lsn.run Lsn.St.init es).cpc = .idle → (Lsn.run Lsn.St.init es).osOpen = false) ∧
    ((Lsn.run Lsn.St.init es).cpc = .yielded →
      (Lsn.run Lsn.St.init es).sockRef = false ∧
      Lsn.step (Lsn.run Lsn.St.init es) .closeCancel =
        some ({ (Lsn.run Lsn.St.init es) with osOpen := false, cpc := .idle }, some .closeCancelled) ∧
      Lsn.step (Lsn.run Lsn.St.init es) .closeResume =
        some ({ (Lsn.run Lsn.St.init es) with osOpen := false, cpc := .idle }, some .closeReturned)) ∧
    ((Lsn.run Lsn.St.init es).sockRef = false →
      Lsn.step (Lsn.run Lsn.St.init es) .closeCall = some (Lsn.run Lsn.St.init es, some .closeReturned)) ∧
    ((Lsn.run Lsn.St.init es).scopeCancelled = true →
      Lsn.step (Lsn.run Lsn.St.init es) .scopeDelivered = some ((Lsn.run Lsn.St.init es).leave, some .ebadf)) := by
  have h := Lsn.Inv.reachable es
  generalize Lsn.run Lsn.St.init es = s at h
  refine ⟨fun hr hc => (h.released hr).resolve_left (by simp [hc]), fun hy => ⟨h.closing hy, ?_, ?_⟩, fun hr => ?_,
    fun hc => ?_⟩
  · simp [Lsn.step, hy]
  · simp [Lsn.step, hy]
  · simp [Lsn.step, hr]
  · simp [Lsn.step, hc, h.marker.mp (h.cancelled hc).1]

/-- non-vacuity: serving, close requested while the accept is parked, the close cancelled at its yield: socket closed, the
    accept ends with EBADF, a second close returns at once -/
example : Lsn.trace Lsn.St.init [.acceptCall, .closeCall, .closeCancel, .scopeDelivered, .closeCall] =
    [none, none, some .closeCancelled, some .ebadf, some .closeReturned] ∧
    (Lsn.run Lsn.St.init [.acceptCall, .closeCall, .closeCancel]).osOpen = false := by decide +kernel

end EasyNet

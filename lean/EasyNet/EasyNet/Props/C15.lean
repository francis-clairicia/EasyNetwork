/-
  C15 — Stream server: each request reaches the handler exactly once, in order.
  Property theorems only (helper lemmas live in EasyNet/Lemmas/Iface.lean and EasyNet/Lemmas/StreamServer.lean).

  The model (EasyNet/Model/StreamServer.lean) mirrors `AsyncStreamServer.__client_coroutine`, the two request
  receivers and `build_lowlevel_stream_server_handler`; it is tied to the Python source by the correspondence check.
  All theorems hold for every handler shape (requests per generator, yielded timeouts, sleeps, on_connection as
  coroutine or generator, closing the client at any request), every chunking / arrival schedule of the request
  stream, every end of stream (EOF, connection error filtered or not), both layers.

  Payload codecs are parameters: a request is its frame (`Item.frame`), a malformed request is a frame the codec
  rejects (thrown into the generator as a parse error *at that position* by the harness-side `model_post`); a frame
  over the size limit is `Item.limit` (thrown as `StreamProtocolParseError(LimitOverrunError)`).
-/
import EasyNet.Lemmas.StreamServer
import EasyNet.Lemmas.RU
import EasyNet.Lemmas.RUSpec
import EasyNet.Lemmas.BRUSpec
namespace EasyNet
open EasyNet.C15

/-- **C15, delivery relative to the reads made** (any consumer satisfying the interface laws, size errors included).
    The values / parse errors that entered handler generators — across generator restarts, timeouts and the
    on_connection generator — are, in order and once each, a prefix of what the byte-level reference decoder cuts
    out of the reads the receiver made; those reads are a prefix of the request stream; and if the end of the stream
    was reached (peer disconnected), *every* request was delivered and the whole stream was read. -/
theorem C15_delivery_reads {κ : Type} (I : Iface κ) (spec : Bytes → SRes) (Rel : κ → Bytes → Prop)
    (Sim : IfaceSim I spec Rel) {ok : Bytes → Prop} (L : SpecLaws spec ok) (k0 : κ) (hk0 : Rel k0 []) (sh : Shape) (tr : Transport) :
    delivered (session I k0 sh tr) <+: (refRun spec [] (sessionFull I k0 sh tr).2.reads).2 ∧
    (sessionFull I k0 sh tr).2.reads.flatten <+: streamOf tr ∧
    ((sessionFull I k0 sh tr).2.sawEnd = true →
      delivered (session I k0 sh tr) = (refRun spec [] (sessionFull I k0 sh tr).2.reads).2 ∧
      (sessionFull I k0 sh tr).2.reads.flatten = streamOf tr) := by
  have F := session_full Sim L.prog k0 hk0 sh tr
  obtain ⟨h, _, hrun⟩ := F.inv
  refine ⟨?_, ?_, ?_⟩
  · show delivered (sessionFull I k0 sh tr).1 <+: _
    rw [hrun]
    exact List.prefix_append _ _
  · rw [← F.pre]
    exact List.prefix_append _ _
  · intro hs
    obtain ⟨⟨h', _, _, hrun'⟩, _⟩ := F.fin hs
    refine ⟨?_, F.read_all hs⟩
    show delivered (sessionFull I k0 sh tr).1 = _
    rw [hrun']

/-- **C15, main sentence** (copying consumer over any framer that refines a byte-level spec; stream without size error).
    For every request stream, every chunking and arrival schedule, every handler shape: the sequence of requests
    seen by the handler generators is a prefix of `decodeAll stream` — each request once, in order, whatever the
    generator restarts — and it is the *whole* of it when the peer's disconnection ended the session. -/
theorem C15_delivery {σ : Type} {init : σ} {feed : σ → Bytes → Res σ} {spec : Bytes → SRes} {FInv : σ → Bytes → Prop}
    (R : Refines init feed spec FInv) (L : SpecLaws spec) (maxRecv : Nat) (sh : Shape) (tr : Transport)
    (hno : NoLimit (decodeW spec (streamOf tr)).2) :
    delivered (session (copyIface init feed maxRecv) Consumer.new sh tr) <+: (decodeW spec (streamOf tr)).2 ∧
    ((sessionFull (copyIface init feed maxRecv) Consumer.new sh tr).2.sawEnd = true →
      delivered (session (copyIface init feed maxRecv) Consumer.new sh tr) = (decodeW spec (streamOf tr)).2) :=
  session_delivery (copyIface_sim R L.prog maxRecv) L Consumer.new .new sh tr (AllOk_of_NoLimit _ hno)

/-- instance of the main sentence for the separator framer (`read_until`: line, JSON-lines, base64, auto-separated
    serializers) -/
theorem C15_delivery_sep (sep : Bytes) (limit : Nat) (ke : Bool) (hsep : sep ≠ []) (maxRecv : Nat) (sh : Shape) (tr : Transport)
    (hno : NoLimit (decodeW (RU.spec sep limit ke) (streamOf tr)).2) :
    delivered (session (copyIface RU.init (RU.feed sep limit ke) maxRecv) Consumer.new sh tr)
      <+: (decodeW (RU.spec sep limit ke) (streamOf tr)).2 ∧
    ((sessionFull (copyIface RU.init (RU.feed sep limit ke) maxRecv) Consumer.new sh tr).2.sawEnd = true →
      delivered (session (copyIface RU.init (RU.feed sep limit ke) maxRecv) Consumer.new sh tr)
        = (decodeW (RU.spec sep limit ke) (streamOf tr)).2) :=
  C15_delivery (RU.refines sep limit ke hsep) (RU.spec_laws sep limit ke hsep) maxRecv sh tr hno

/-- **C15, main sentence, buffered receive path** (`_BufferedRequestReceiver` over `BufferedStreamDataConsumer` and
    `_buffered_readuntil`; request stream whose frames are safely inside the buffer, `|payload| + |sep| < cap`):
    the requests seen by the handler generators are a prefix of the frame-by-frame decoding of the stream, and all of it
    when the peer's disconnection ended the session — whatever sizes the transport fills. -/
theorem C15_delivery_sep_buffered (sep : Bytes) (cap : Nat) (ke : Bool) (hsep : sep ≠ []) (hcap : 0 < cap)
    (sh : Shape) (tr : Transport)
    (hsafe : AllOk (BRU.okFrame sep cap ke) (decodeW (BRU.spec sep cap ke) (streamOf tr)).2) :
    delivered (session (bufIface BRU.init 0 cap (BRU.feed true sep ke)) BufConsumer.new sh tr)
      <+: (decodeW (BRU.spec sep cap ke) (streamOf tr)).2 ∧
    ((sessionFull (bufIface BRU.init 0 cap (BRU.feed true sep ke)) BufConsumer.new sh tr).2.sawEnd = true →
      delivered (session (bufIface BRU.init 0 cap (BRU.feed true sep ke)) BufConsumer.new sh tr)
        = (decodeW (BRU.spec sep cap ke) (streamOf tr)).2) := by
  have L := BRU.spec_laws sep cap ke hsep
  exact session_delivery (bufIface_sim cap (BRU.refines sep cap ke hsep) hcap) L BufConsumer.new
    (.new cap) sh tr hsafe

/-- non-vacuity: CRLF requests cut inside the separator, one byte per read, three generators (restart in the middle
    of the stream), a yielded timeout that expires before the second chunk: every request is delivered once, in order,
    and the hypotheses of `C15_delivery_sep` hold -/
private abbrev exSh1 : Shape :=
  ⟨.high, none, [[⟨0, some 3, false, false⟩, ⟨0, none, true, false⟩], [⟨2, none, false, false⟩], [⟨0, none, false, false⟩, ⟨0, none, false, false⟩]]⟩
private abbrev exTr1 : Transport := ⟨[(0, [97, 13]), (5, [10, 98, 13, 10, 99]), (9, [13, 10])], 9, .eof, true⟩

example : NoLimit (decodeW (RU.spec [13, 10] 16 false) (streamOf exTr1)).2 := by
  decide +kernel

example :
    delivered (session (copyIface RU.init (RU.feed [13, 10] 16 false) 1) Consumer.new exSh1 exTr1)
      = [.frame [97], .frame [98], .frame [99]] ∧
    (sessionFull (copyIface RU.init (RU.feed [13, 10] 16 false) 1) Consumer.new exSh1 exTr1).2.sawEnd = true := by
  decide +kernel

/-- **C15, a yielded timeout raises TimeoutError only if no complete request arrived in time.**
    If `request_receiver.next(timeout)` (timeout > 0, no arrival exactly at the deadline) ends in `TimeoutError`, then
    the consumer holds nothing complete (`Exact`: everything the reference decoder finds in the reads made has been
    delivered before), the clock stands at the deadline, and whatever the transport would deliver next — data or the
    end of the stream — arrives strictly after the deadline. -/
theorem C15_timeout_only_when_idle {κ : Type} (I : Iface κ) (spec : Bytes → SRes) (Rel : κ → Bytes → Prop)
    (Sim : IfaceSim I spec Rel) {ok : Bytes → Prop} (L : SpecLaws spec ok) (S : Bytes) (s : RState κ) (D : List Item)
    (hF : Full spec Rel S s D) (to : Nat) (hto : 0 < to) (hne : ∀ c ∈ s.tr.chunks, c.1 ≠ s.now + to)
    (ht : (recvNext I s (some to)).2 = .timeout) :
    Exact spec Rel (recvNext I s (some to)).1 D ∧
    (recvNext I s (some to)).1.now = s.now + to ∧
    (∀ c rest, (recvNext I s (some to)).1.tr.chunks = c :: rest → s.now + to < c.1) ∧
    ((recvNext I s (some to)).1.tr.chunks = [] → s.now + to < (recvNext I s (some to)).1.tr.endT) := by
  have h := recvNext_timeout I s to hto hne ht
  exact ⟨(recvNext_full Sim L.prog S s (some to) D hF).2 (by rw [ht]; rfl), h.1,
    fun c rest hc => Transport.nextT_cons hc ▸ h.2, fun hc => Transport.nextT_nil hc ▸ h.2⟩

/-- non-vacuity: a first chunk holding half a request, the rest arriving at time 9; `yield 4` times out at 4 -/
private abbrev exI : Iface (Consumer RUState) := copyIface RU.init (RU.feed [10] 16 false) 64
private abbrev exS2 : RState (Consumer RUState) := (initCtx Consumer.new ⟨[(0, [97]), (9, [10])], 9, .eof, true⟩).s

example :
    (recvNext exI exS2 (some 4)).2 = .timeout ∧ (∀ c ∈ exS2.tr.chunks, c.1 ≠ exS2.now + 4) ∧
    (recvNext exI exS2 (some 4)).1.now = 4 := by
  decide +kernel

/-- **C15, generators.** In every session the events are well bracketed: a generator is started only when none is
    active, every value / exception is delivered to the active generator, every started generator is ended exactly
    once (returned or closed by `aclose()`), and none is open when the client task finishes. -/
theorem C15_generator_closed_once {κ : Type} (I : Iface κ) (k0 : κ) (sh : Shape) (tr : Transport) :
    balanced none (session I k0 sh tr) = true := by
  show balanced none (connObs sh ++ (run I sh.layer sh.flatten (initCtx k0 tr)).1) = true
  exact balanced_conn sh _ (run_trace I sh.layer sh.flatten none (initCtx k0 tr) (wf_flatten sh)).1

/-- **C15, the connection is closed.** Every session — peer disconnect, handler-initiated close, handler script
    exhausted — ends with the transport closed (`aclose_forcefully` of the client task's exit stack). -/
theorem C15_connection_closed {κ : Type} (I : Iface κ) (k0 : κ) (sh : Shape) (tr : Transport) :
    ∃ pre a n, session I k0 sh tr = pre ++ [Obs.final true a n] :=
  (run_trace I sh.layer sh.flatten none (initCtx k0 tr) (wf_flatten sh)).2.append (connObs sh)

/-- non-vacuity of the two statements above on a session where the handler closes the client at the second request
    while a third one is already buffered: generator 0 is closed by `aclose()`, nothing more is delivered -/
private abbrev exSh3 : Shape := ⟨.high, some [⟨0, none, false, false⟩], [[⟨0, none, false, true⟩, ⟨0, none, false, false⟩]]⟩
private abbrev exTr3 : Transport := ⟨[(0, [97, 10, 98, 10, 99, 10])], 3, .eof, true⟩

example :
    session exI Consumer.new exSh3 exTr3 =
      [.genStart "oc" 0, .req "oc" (.frame [97]) 0, .genEnd "oc" false 0,
       .genStart "0" 0, .req "0" (.frame [98]) 0, .closedBy "0" 0, .genEnd "0" true 0, .disc true 0,
       .taskDone 0, .final true 2 0] := by
  decide +kernel

end EasyNet

/-
  C16 — Datagram server: per-client FIFO, one active handler, nothing dropped.
  Property theorems only (lemmas: EasyNet/Lemmas/DgramSrv.lean; model: EasyNet/Model/DgramSrv.lean, tied to
  easynetwork/lowlevel/api_async/servers/datagram.py by the trace-replay correspondence check).

  Everything is stated for an arbitrary number of client addresses and an arbitrary list `ls` of
  (address, label) pairs = an arbitrary interleaving of datagram arrivals from all addresses with the atomic
  steps of every task (handler first step, lock acquisition, client coroutine start / wake-up / timeout) and
  with an arbitrary behaviour of every request handler generator (yield with or without timeout, finish after
  any number of requests, finish before the first yield).  `srun Sys.init ls = some s`: the model accepts it.
-/
import EasyNet.Lemmas.DgramSrv
namespace EasyNet
open EasyNet.DgramSrv

/-- **Exactly once, in arrival order, nothing dropped.**  For every address, what the generators have
    consumed so far, followed by the datagram the client coroutine holds, the queue, and the datagrams whose
    handler task has not started yet, is exactly the arrival sequence.  In particular the consumed sequence is
    a prefix of the arrival sequence (order, no duplicate, no gap) and nothing that arrived is ever lost. -/
theorem C16_fifo_once {α} (ls : List (Nat × Label α)) (s : Sys α) (h : srun Sys.init ls = some s) (a : Nat) :
    (s a).consumed ++ held (s a).r ++ (s a).queue ++ (s a).inflight = (s a).arrived ∧
    (s a).consumed <+: (s a).arrived := by
  have I := Inv.reachable h a
  refine ⟨I.fifo, ⟨held (s a).r ++ (s a).queue ++ (s a).inflight, ?_⟩⟩
  simpa [List.append_assoc] using I.fifo

/-- **At most one generator is alive per address**, and one is alive exactly when the client coroutine is
    past `mark_running()` (state TASK_RUNNING). -/
theorem C16_single_runner {α} (ls : List (Nat × Label α)) (s : Sys α) (h : srun Sys.init ls = some s) (a : Nat) :
    (s a).active ≤ 1 ∧ ((s a).active = 1 ↔ (s a).state = .running) := by
  have I := (Inv.reachable h a).coh
  unfold Coherent at I
  cases hr : (s a).r <;> simp only [hr] at I <;> simp [I]

/-- **A queued datagram always has a consumer.**  Whenever the queue of an address is non-empty, its state
    is not `None`, and the consumer can move: a pending coroutine can start, a running generator is the one
    to move (its next yield takes the datagram at once), and a coroutine waiting on the condition is either
    already notified or a handler task is still on its way to `notify()` — no lost wake-up. -/
theorem C16_not_stuck {α} (ls : List (Nat × Label α)) (s : Sys α) (h : srun Sys.init ls = some s) (a : Nat)
    (hq : (s a).queue ≠ []) :
    (s a).state ≠ .idle ∧
    (match (s a).r with
     | .none => False
     | .scheduled => (step (s a) .rs).isSome
     | .first _ => (step (s a) (.gy false)).isSome
     | .handling => ∃ c', step (s a) (.gy false) = some c' ∧ c'.consumed.length = (s a).consumed.length + 1
     | .waiting _ n => (n = true ∧ ∃ c', step (s a) .wk = some c' ∧ c'.consumed.length = (s a).consumed.length + 1)
                        ∨ (step (s a) .hl).isSome) := by
  have I := Inv.reachable h a
  have coh := I.coh
  unfold Coherent at coh
  obtain ⟨d, q, hqq⟩ := List.exists_cons_of_ne_nil hq
  cases hr : (s a).r <;> simp only [hr] at coh
  case none => exact absurd coh.2.2 hq
  all_goals refine ⟨by simp [coh.1], ?_⟩
  case scheduled => simp [step_rs hr]
  case first d => simp [step_gy_first false hr]
  case handling => exact ⟨_, step_gy_handling false hr hqq, by simp [deliver]⟩
  case waiting t n =>
    cases n with
    | true => exact .inl ⟨rfl, _, step_wk hr hqq, by simp [deliver]⟩
    | false => exact .inr (by simp [I.step_hl (Nat.ne_of_gt (coh.2.2 rfl hq))])

/-- **The inconsistent-state branches are unreachable**: `mark_pending`, `mark_running`, `mark_done` always
    find the state they expect, and `pop_datagram_no_wait()` never finds the queue empty. -/
theorem C16_no_inconsistent_state {α} (ls : List (Nat × Label α)) (s : Sys α) (h : srun Sys.init ls = some s)
    (a : Nat) : (s a).bad = false :=
  (Inv.reachable h a).good

/-- **Isolation**: a step of address `a` — however slow its handler is — leaves the state of every other
    address untouched (one `_ClientData`, one queue, one condition per address). -/
theorem C16_isolation {α} (s s' : Sys α) (a b : Nat) (l : Label α) (h : sstep s a l = some s') (hb : b ≠ a) :
    s' b = s b := by
  obtain ⟨c, -, rfl⟩ := Option.map_eq_some_iff.1 (sstep_eq s a l ▸ h)
  exact s.set_ne a c b hb

/-- **Isolation over whole histories (projection).**  The state of address `b` after *any* accepted interleaving is
    the state a server talking to `b` alone reaches on `b`'s own labels, in their own order: what the other clients
    send, how slow their handlers are and where their steps fall between `b`'s steps cannot be observed at `b`.
    With `C16_fifo_once` this gives per-client FIFO for every arrival order of the *other* clients. -/
theorem C16_projection {α} (ls : List (Nat × Label α)) (s₀ s : Sys α) (h : srun s₀ ls = some s) (b : Nat) :
    run (s₀ b) ((ls.filter (fun p => p.1 = b)).map (·.2)) = some (s b) :=
  (srun_iff ls).1 h b

/-- **Everything that arrived can still be handled** (no deadlock, nothing stranded): from every reachable state
    of an address there is a continuation — using only steps of the server's own tasks and of a generator that
    keeps yielding, no further arrival — after which every datagram received so far has been consumed, in order,
    and nothing is queued or in flight. -/
theorem C16_can_drain {α} (ls : List (Nat × Label α)) (s : Sys α) (h : srun Sys.init ls = some s) (a : Nat) :
    ∃ more c', (∀ l ∈ more, ∀ d, l ≠ Label.arrive d) ∧ run (s a) more = some c' ∧
      c'.consumed = (s a).arrived ∧ c'.queue = [] ∧ c'.inflight = [] :=
  can_drain _ (s a) (Inv.reachable h a) (Nat.lt_succ_self _)

/-- non-vacuity: two addresses; address 0 gets three datagrams while its generator is busy, the generator
    finishes after one request, the task-done hook restarts a coroutine, which discards one datagram (ends
    before its first yield) and is restarted again; address 1 is served in between.  The schedule is accepted;
    at the end address 0 has consumed 1,2,3 in order with nothing left, its third generator waiting for more. -/
example :
    ((srun (Sys.init : Sys Nat)
        [(0, .arrive 1), (0, .h), (0, .arrive 2), (0, .arrive 3), (0, .h), (1, .arrive 7), (0, .gy false), (0, .h),
         (1, .h), (0, .hl), (0, .ge), (1, .gy true), (0, .hl), (0, .rs), (0, .ge), (1, .gy true), (0, .rs),
         (0, .gy false), (1, .to), (0, .gy false)]).map
      fun s => ((s 0).consumed, (s 0).queue, (s 0).active, (s 0).bad, (s 1).consumed, (s 1).active))
      = some ([1, 2, 3], [], 1, false, [7], 1) := by
  decide +kernel

/-- non-vacuity of the projection: address 1's own labels of the schedule above, run alone, give its final state -/
example : ((run (Client.init : Client Nat) [.arrive 7, .h, .gy true, .gy true, .to]).map
    fun c => (c.consumed, c.active, c.bad)) = some ([7], 1, false) := by
  decide +kernel

end EasyNet

/-
  C17 — One client's failure (handler or connection set-up) never affects the others.  Property theorems only.

  The tables (`Gen.Iso.*`: exception classes with their live subclass relation, every per-client filter read from the AST,
  the nesting map hook position -> enclosing filters) are regenerated from the Python source on every run, so every
  theorem below that mentions them is re-checked against what the code says now.  "Exception tree" = an exception object
  of arbitrary shape (a naked exception, or (Base)ExceptionGroups nested to any depth and width) all of whose leaves are
  instances of `Exception` — what the property promises isolation for.

  Model: EasyNet/Model/Iso.lean (PEP 654 semantics of `except` / `except*` on trees; the TCP exit-stack epilogue; UDP through
  Model/DgramSrv.lean of C16).  Lemmas: EasyNet/Lemmas/Iso.lean, IsoTcp.lean, IsoUdp.lean.
-/
import EasyNet.Gen.IsoTables
import EasyNet.Lemmas.IsoTcp
import EasyNet.Lemmas.IsoUdp
namespace EasyNet
open EasyNet.Iso EasyNet.Gen.Iso

namespace C17aux

/-- `allCls` lists the constructors of `Cls` in the order of their declaration -/
theorem all_complete (c : Cls) : c ∈ allCls :=
  List.mem_of_getElem? (i := c.ctorIdx) (by cases c <;> decide +kernel)

theorem eg_is_exception : K.sub K.eg K.exc = true := by decide +kernel

/-- the decidable guard check of one chain of layers -/
def guarded (ls : List (Layer Cls)) : Bool := ls.any (Layer.plainTotal K allCls)

/-- TCP hook positions of the nesting map, by name -/
def tcpHookPositions : List String := ["oc_coro", "oc_pre", "oc_post", "oc_thrown", "h_pre", "h_post", "h_thrown", "h_gexit", "od"]

theorem nesting_guarded : ∀ p ∈ nesting, (chainLayers filters p.filters).any guarded = true := by decide +kernel

theorem suppress_and_log_outer : (findFilter filters "tcp.suppress_and_log").any (·.outer) = true := by decide +kernel

end C17aux
open C17aux

/-- **Every per-client outer filter is total on Exception trees.**  `__suppress_and_log_remaining_exception` (TCP),
    `_ClientContext.__aexit__` (UDP), the listener's `client_connection_task` handler (accepted-socket set-up) and the TLS
    listener's handshake wrapper each swallow every exception tree, of any shape, whose leaves are all `Exception`s:
    nothing escapes them. -/
theorem C17_filter_total :
    ∀ f ∈ filters, f.outer = true → ∀ t : Tree Cls, t.allExc K = true → (runLayers K f.layers t).1 = none := by
  have h : ∀ f ∈ filters, f.outer = true → guarded f.layers = true := by decide +kernel
  intro f hf ho t ht
  exact guarded_swallows K allCls all_complete eg_is_exception f.layers (h f hf ho) t ht

/-- non-vacuity: the four outer filters exist, and the check can fail (a filter narrowed to `except OSError` lets a
    `ValueError` through) -/
example : (filters.filter (·.outer)).map (·.name) =
    ["tcp.suppress_and_log", "listener.client_connection_task", "tls.handler_wrapper", "udp.client_context_aexit"] := rfl

example : (runLayers K [⟨false, [⟨[.cOSError], .silent, .swallow⟩]⟩] (.group [.leaf .cValueError])).1.isSome = true ∧
    guarded [⟨false, [⟨[.cOSError], .silent, .swallow⟩]⟩] = false := by decide +kernel

example : (Tree.group [.leaf .cValueError, .group [.leaf .cClientClosedError, .leaf .cOSError]]).allExc K = true := by
  decide +kernel

/-- **Every hook position is guarded.**  For every position of the generated nesting map (TCP / TCP+TLS: `on_connection`
    as coroutine, before / after its yield, on a thrown error; `handle` before its first yield, after any yield, while
    handling a thrown error, on generator close; `on_disconnection`; accepted-socket set-up; TLS handshake — UDP: `handle`
    before its first yield, after a yield, on a thrown error) the composition of the enclosing filters swallows every
    Exception tree: nothing reaches the server's task group. -/
theorem C17_every_position_guarded :
    ∀ p ∈ nesting, ∃ ls, chainLayers filters p.filters = some ls ∧
      ∀ t : Tree Cls, t.allExc K = true → (runLayers K ls t).1 = none := by
  intro p hp
  obtain ⟨ls, hls, hg⟩ := (Option.any_eq_true _ _).1 (nesting_guarded p hp)
  exact ⟨ls, hls, guarded_swallows K allCls all_complete eg_is_exception ls hg⟩

/-- non-vacuity: the map has the positions of all three server kinds, and a concrete nested tree is swallowed at one -/
example : nesting.length ≥ 24 ∧ (nesting.map (·.kind)).eraseDups = ["tcp", "tcp-tls", "udp"] := by decide +kernel

example : nesting.any (fun p => p.kind == "tcp" && p.pos == "od" &&
    match chainLayers filters p.filters with
    | some ls => (runLayers K ls (.group [.leaf .cConnectionResetError, .group [.leaf .cValueError]])).1.isNone
    | none => false) = true := by decide +kernel

/-- **The boundary (converse).**  If something does escape the filters of a position and reaches the task group, the
    exception raised contained a leaf that is not an `Exception` (`CancelledError`, `KeyboardInterrupt`, `SystemExit`,
    another `BaseException`); and what escapes is made of leaves of what was raised. -/
theorem C17_taskgroup_unaffected :
    ∀ p ∈ nesting, ∀ ls, chainLayers filters p.filters = some ls → ∀ t r : Tree Cls,
      (runLayers K ls t).1 = some r →
      (∃ c ∈ t.leaves, K.sub c K.exc = false) ∧ ∀ c ∈ r.leaves, c ∈ t.leaves := by
  intro p hp ls hls t r hr
  obtain ⟨_, hls', hT⟩ := C17_every_position_guarded p hp
  cases hls.symm.trans hls'
  exact escape_has_nonexc K ls hT t r hr

/-- non-vacuity: escapes exist — a `KeyboardInterrupt` inside a group goes through the UDP chain -/
example : nesting.any (fun p => p.kind == "udp" && p.pos == "h_post" &&
    match chainLayers filters p.filters with
    | some ls => (runLayers K ls (.group [.leaf .cValueError, .leaf .cKeyboardInterrupt])).1.isSome
    | none => false) = true := by decide +kernel

/-- **TCP: the faulty connection is closed and `on_disconnection` runs as documented.**  On the exit-stack machine of the
    client task, for every TCP / TCP+TLS hook position of the generated map, every generator index / request index and every
    Exception tree: the transport ends closed, nothing is left in flight, every started `handle` generator was closed, and
    `on_disconnection` ran exactly once if `on_connection` had completed and not at all otherwise — never twice.
    (`p.odRegistered` / `p.ocCompleted` are read from the statement order in misc.py; that they coincide is part of
    the statement: it is the documented contract "not called if on_connection raises / is still running".) -/
theorem C17_tcp_closes_and_disconnects :
    ∀ p ∈ nesting, p.kind ≠ "udp" → p.pos ∈ tcpHookPositions →
      p.odRegistered = p.ocCompleted ∧
      ∀ tp : TcpPos, tp.name = p.pos → ∀ t : Tree Cls, t.allExc K = true →
        let s := tcpRun K filters p.odRegistered tp t
        s.closed = true ∧ s.inflight = none ∧ s.gensStarted = s.gensClosed ∧
        s.ocDone = p.ocCompleted ∧ s.odCount = (if s.ocDone then 1 else 0) ∧ s.odCount ≤ 1 := by
  have htab : ∀ p ∈ nesting, p.kind ≠ "udp" → p.pos ∈ tcpHookPositions →
      p.odRegistered = p.ocCompleted ∧ p.ocCompleted = !ocFaultNames.contains p.pos := by
    decide +kernel
  obtain ⟨F, hF, ho⟩ := (Option.any_eq_true _ _).1 suppress_and_log_outer
  intro p hp hk hpos
  obtain ⟨h1, h2⟩ := htab p hp hk hpos
  refine ⟨h1, fun tp hname t ht => ?_⟩
  obtain ⟨_, _, _, h⟩ :=
    tcpRun_eq K filters F hF (C17_filter_total F (List.mem_of_find?_eq_some hF) ho) p.odRegistered tp t ht
  have hoc : p.ocCompleted = !tp.ocFault := by rw [h2, ← hname, tp.ocFault_eq]
  simp only [h]
  rw [h1, hoc]
  cases tp.ocFault <;> simp

/-- non-vacuity: the TCP hook positions are in the map with both values of the flag, and the machine does run
    `on_disconnection` once for a fault in `handle` and not at all for a fault in `on_connection` -/
example : (nesting.filter (fun p => p.kind == "tcp" && tcpHookPositions.contains p.pos)).map (fun p => (p.pos, p.ocCompleted)) =
    [("oc_coro", false), ("oc_pre", false), ("oc_post", false), ("oc_thrown", false), ("h_pre", true), ("h_post", true),
     ("h_thrown", true), ("h_gexit", true), ("od", true)] := by decide +kernel

example : (tcpRun K filters true (.hPost 2 1) (.group [.leaf .cValueError])).odCount = 1 ∧
    (tcpRun K filters false .ocPost (.group [.leaf .cValueError])).odCount = 0 ∧
    (tcpRun K filters true (.hPost 2 1) (.group [.leaf .cValueError])).hooks.reverse =
      ["on_connection:start", "on_connection:done", "handle:start_g1", "handle:closed_g1", "handle:start_g2",
       "handle:closed_g2", "on_disconnection"] := by decide +kernel

/-- **UDP: the faulty client restarts, the others are untouched.**  In any reachable state of the datagram server model
    (any number of addresses, any interleaving — the model of C16), when the request handler generator of address `a`
    fails with an Exception tree at any UDP position of the generated map: the filter chain swallows it (nothing reaches
    the task group); the state of every other address is unchanged; `a`'s `_ClientData` is consistent with no generator
    alive; if nothing was queued it is back to "no task" and the next datagram from `a` starts a fresh generator that
    receives it; if datagrams were queued, the re-spawned client coroutine starts a fresh generator. -/
theorem C17_udp_restarts {α : Type} (evs : List (Nat × DgramSrv.Label α)) (s : DgramSrv.Sys α)
    (hreach : DgramSrv.srun DgramSrv.Sys.init evs = some s) (a : Nat) (hrun : (s a).inHandler)
    (p : Position) (hp : p ∈ nesting) (_hk : p.kind = "udp") (t : Tree Cls) (ht : t.allExc K = true) :
    ∃ ls s', chainLayers filters p.filters = some ls ∧ udpFault K ls s a t = (some s', none) ∧
      (∀ b, b ≠ a → s' b = s b) ∧ (s' a).bad = false ∧ (s' a).active = 0 ∧
      ((s a).queue = [] → (s' a).state = .idle ∧ (s' a).r = .none ∧
        ((s a).inflight = [] → ∀ d, ∃ s'', DgramSrv.srun s' [(a, .arrive d), (a, .h)] = some s'' ∧
            (s'' a).r = .first d ∧ (s'' a).state = .running ∧ (s'' a).active = 1 ∧ (s'' a).bad = false ∧
            ∀ b, b ≠ a → s'' b = s b)) ∧
      ((s a).queue ≠ [] → (s' a).state = .pending ∧ (s' a).r = .scheduled ∧
        ∃ s'' d, DgramSrv.sstep s' a .rs = some s'' ∧ (s'' a).r = .first d ∧ (s'' a).state = .running ∧
            (s'' a).active = 1 ∧ (s'' a).bad = false ∧ ∀ b, b ≠ a → s'' b = s b) := by
  obtain ⟨ls, hls, hsw⟩ := C17_every_position_guarded p hp
  have I := DgramSrv.Inv.reachable hreach a
  obtain ⟨c', hstep, hbad, hact, hinf, hq, hE, hN⟩ := DgramSrv.ge_resets (s a) I hrun
  refine ⟨ls, s.set a c', hls, ?_, s.set_ne a c', ?_⟩
  · simp [udpFault, DgramSrv.sstep_eq, hstep, hsw t ht]
  rw [DgramSrv.Sys.set_self]
  refine ⟨hbad, hact, fun hqe => ?_, fun hqn => ?_⟩
  · refine ⟨(hE hqe).1, (hE hqe).2, fun hie d => ?_⟩
    obtain ⟨c'', hrun2, h1, h2, h3, h4⟩ :=
      DgramSrv.fresh_after_reset c' hbad hact (hE hqe).1 (hq.trans hqe) (hinf.trans hie) d
    refine ⟨s.set a c'', DgramSrv.srun_at a s hrun2, ?_⟩
    rw [DgramSrv.Sys.set_self]
    exact ⟨h1, h2, h3, h4, s.set_ne a c''⟩
  · refine ⟨(hN hqn).1, (hN hqn).2, ?_⟩
    obtain ⟨c'', d, hst, h1, h2, h3, h4⟩ :=
      DgramSrv.fresh_after_respawn c' hbad hact (hN hqn).1 (hN hqn).2 (hq ▸ hqn)
    refine ⟨s.set a c'', d, by simp [DgramSrv.sstep_eq, hst], ?_⟩
    rw [DgramSrv.Sys.set_self]
    exact ⟨h1, h2, h3, h4, s.set_ne a c''⟩

/-- non-vacuity: a reachable state with a generator inside its handler (one datagram arrived at address 3 and its
    generator received it), and the UDP positions of the map -/
example : ∃ s : DgramSrv.Sys Nat, DgramSrv.srun DgramSrv.Sys.init [(3, .arrive 7), (3, .h), (3, .gy false)] = some s ∧
    (s 3).r = .handling := by
  refine ⟨_, rfl, rfl⟩

example : (nesting.filter (·.kind == "udp")).map (·.pos) = ["h_pre", "h_post", "h_thrown"] := by decide +kernel

end EasyNet

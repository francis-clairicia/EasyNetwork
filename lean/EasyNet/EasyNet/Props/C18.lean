/-
  C18 — Server lifecycle operations are safe in every order.
  Property theorems only (lemmas: EasyNet/Lemmas/LifeStep.lean, LifeA.lean, LifeAProg.lean, LifeS.lean; models: EasyNet/Model/Life.lean —
  `A` mirrors `BaseAsyncNetworkServerImpl`, `S` mirrors `BaseStandaloneNetworkServerImpl`, both tied to
  easynetwork/servers/_base.py by the trace-admission correspondence check).

  Everything is stated for a REACHABLE state `s`: reachable from the initial state by an arbitrary list of labelled
  steps = an arbitrary family of callers (tasks / threads, `Nat → Caller`), each with an arbitrary finite program of
  serve_forever / shutdown / server_close / probe calls, under an arbitrary schedule of their atomic steps, of the
  listener task's steps, of client connections and of external `task.cancel()` requests.  No bound anywhere.
-/
import EasyNet.Lemmas.LifeA
import EasyNet.Lemmas.LifeAProg
import EasyNet.Lemmas.LifeS
import EasyNet.Lemmas.Listener
namespace EasyNet
open EasyNet.Life

/-- **shutdown returns only after serving has fully stopped.**
    Asynchronous server: a `shutdown()` still waiting (`dWait n`) waits on the event of the run in progress (`n` is the
    current generation, `is_shutdown` not set) and cannot return; once it has been woken (`dWoken n`, about to return)
    the run it observed is over: either a later run has been admitted since (`n < gen`), or nothing runs at all —
    `is_shutdown` is set, nobody is inside serve_forever, the listener tasks are gone and cleared, `is_serving()` is
    False (tear-down completed, `is_shutdown.set()` was its last action).  A `shutdown()` that returns at once found
    `is_shutdown` set, i.e. the same quiescent situation.
    Standalone server: the same for `self.__is_shutdown.wait()` without timeout (`dEvent`/`dWoken`): when the thread is
    woken the serve_forever thread has released everything: no embedded server, portal gone, listeners closed. -/
theorem C18_shutdown_waits :
    (∀ s : A.State, A.Reachable s → ∀ i n,
      ((s.cs i).pc = .dWait n → n = s.g.gen ∧ s.g.isShutdown = false ∧ A.advStep i 0 s.g (s.cs i) = none) ∧
      ((s.cs i).pc = .dWoken n → n ≤ s.g.gen ∧
        (n = s.g.gen → s.g.isShutdown = true ∧ s.g.runner = none ∧ s.g.tasks = .none ∧ s.g.listed = false ∧
          A.serving s.g = false ∧ ∀ j, (s.cs j).pc.inServe = false)) ∧
      (s.g.isShutdown = true → s.g.runner = none ∧ A.serving s.g = false ∧ ∀ j, (s.cs j).pc.inServe = false)) ∧
    (∀ s : S.State, S.Reachable s → ∀ i n,
      (∀ t, (s.cs i).pc = .dEvent t n → n = s.g.gen ∧ s.g.isShutdown = false ∧ S.advStep i 0 s.g (s.cs i) = none) ∧
      ((s.cs i).pc = .dWoken n → n ≤ s.g.gen ∧
        (n = s.g.gen → s.g.isShutdown = true ∧ s.g.runner = none ∧ s.g.phase = .none ∧ s.g.lsOpen = false ∧
          s.g.portalOpen = false ∧ ∀ j, (s.cs j).pc.inRun = false))) := by
  refine ⟨fun s hr i n => ?_, fun s hr i n => ?_⟩
  · have I := A.inv_reachable hr
    have c4 := (I.ci i).2.2.2
    refine ⟨fun hp => ?_, fun hp => ?_, fun hsd => ?_⟩
    · simp only [hp] at c4; exact ⟨c4.1, c4.2.1, by simp [A.advStep, hp]⟩
    · simp only [hp] at c4; exact ⟨c4.1, fun hn => ⟨c4.2 hn, I.quiet (c4.2 hn)⟩⟩
    · obtain ⟨h1, _, _, h4, h5⟩ := I.quiet hsd; exact ⟨h1, h4, h5⟩
  · have I := S.inv_reachable hr
    have c4 := (I.ci i).2.2.2
    refine ⟨fun t hp => ?_, fun hp => ?_⟩
    · simp only [hp] at c4
      -- without timeout, or with k = 0 (the timeout has not fired): not enabled
      exact ⟨c4.1, c4.2.1, by simp [S.advStep, hp]⟩
    · simp only [hp] at c4
      exact ⟨c4.1, fun hn => ⟨c4.2 hn, I.quiet (c4.2 hn)⟩⟩

/-- non-vacuity (asynchronous): serve_forever by caller 0 comes up, caller 1 calls shutdown and parks on the event of
    generation 1; only after the tear-down (listener task dead, cleared, `is_shutdown.set()` last) is it woken, and it
    returns `ok` after the serve_forever call. -/
example :
    ((A.run (A.State.init fun i => if i = 0 then [.serve] else if i = 1 then [.shutdown] else [])
        [.call 0, .adv 0 0, .adv 0 0, .adv 0 0, .taskRun, .adv 0 0, .call 1, .adv 0 0, .taskDie, .adv 0 0]).map
      fun s => ((s.cs 1).pc, (s.cs 0).pc, s.g.isShutdown, s.g.gen)) = some (.dWait 1, .sQuit, false, 1) ∧
    ((A.run (A.State.init fun i => if i = 0 then [.serve] else if i = 1 then [.shutdown] else [])
        [.call 0, .adv 0 0, .adv 0 0, .adv 0 0, .taskRun, .adv 0 0, .call 1, .adv 0 0, .taskDie, .adv 0 0, .adv 0 0, .adv 1 0]).map
      fun s => ((s.cs 1).results, (s.cs 0).results, s.g.isShutdown, A.serving s.g)) = some ([.ok], [.ok], true, false) := by
  decide +kernel

/-- **a stopped server can serve again unless it was closed.**  From every reachable state in which nobody is inside
    serve_forever and the server is not closed, a caller whose next call is serve_forever is admitted and there is a
    schedule that brings it to `is_serving() = True` (asynchronous: listeners re-used or created, listener task started
    and listed; standalone — when no other thread is inside serve_forever / server_close start-up, i.e. the close lock
    is free — portal open, embedded server serving, listeners open). -/
theorem C18_restartable :
    (∀ s : A.State, A.Reachable s → ∀ i rest, s.g.runner = none → s.g.factoryCb = true → (s.cs i).pc = .idle →
      (s.cs i).prog = .serve :: rest →
      ∃ ls s', A.run s ls = some s' ∧ A.serving s'.g = true ∧ (s'.cs i).pc = .sSleep ∧ s'.g.runner = some i ∧
        (s'.cs i).results = (s.cs i).results) ∧
    (∀ s : S.State, S.Reachable s → ∀ i rest, s.g.runner = none → s.g.isClosed = false → s.g.closeLock = none →
      (s.cs i).pc = .idle → (s.cs i).prog = .serve :: rest →
      ∃ ls s', S.run s ls = some s' ∧ (s'.cs i).pc = .tLoop ∧ s'.g.runner = some i ∧ s'.g.phase = .serving ∧
        s'.g.lsOpen = true ∧ s'.g.portalOpen = true ∧ s'.g.attr = true ∧ (s'.cs i).results = (s.cs i).results) :=
  ⟨fun _ hr => A.restart (A.inv_reachable hr), fun _ hr => S.restart (S.inv_reachable hr)⟩

/-- non-vacuity: serve → shutdown → (stopped, not closed) → the hypotheses hold and a second serve_forever reaches
    serving with the same listeners. -/
example :
    ((A.run (A.State.init fun i => if i = 0 then [.serve, .serve] else if i = 1 then [.shutdown] else [])
        [.call 0, .adv 0 0, .adv 0 0, .adv 0 0, .taskRun, .adv 0 0, .call 1, .adv 0 0, .taskDie, .adv 0 0, .adv 0 0, .adv 1 0]).map
      fun s => (s.g.runner, s.g.factoryCb, (s.cs 0).pc, (s.cs 0).prog, s.g.servers)) = some (none, true, .idle, [.serve], true) ∧
    ((A.run (A.State.init fun i => if i = 0 then [.serve, .serve] else if i = 1 then [.shutdown] else [])
        [.call 0, .adv 0 0, .adv 0 0, .adv 0 0, .taskRun, .adv 0 0, .call 1, .adv 0 0, .taskDie, .adv 0 0, .adv 0 0, .adv 1 0,
         .call 0, .adv 0 0, .taskRun, .adv 0 0]).map
      fun s => (A.serving s.g, s.g.gen)) = some (true, 2) := by
  decide +kernel

/-- **a closed server refuses to serve with ServerClosedError.**  Once a `server_close()` has returned normally
    (`closeDone`), a serve_forever call ends in its very first step: with ServerClosedError — or with
    ServerAlreadyRunning while an earlier serve_forever is still being torn down (asynchronous server; the standalone
    server checks the closed flag first) — it is never admitted, never reaches serving, and leaves the listeners alone. -/
theorem C18_closed_refuses :
    (∀ s s' : A.State, A.Reachable s → s.g.closeDone = true → ∀ i rest, (s.cs i).pc = .idle → (s.cs i).prog = .serve :: rest →
      A.step s (.call i) = some s' →
      (s'.cs i).pc = .idle ∧ s'.g.lsOpen = false ∧ s'.g.closeDone = true ∧
      (s'.cs i).results = (s.cs i).results ++ [if s.g.runner = none then .closedErr else .alreadyRunning]) ∧
    (∀ s s' : S.State, S.Reachable s → s.g.closeDone = true → ∀ i k, (s.cs i).pc = .tClose →
      S.step s (.adv i k) = some s' →
      (s'.cs i).pc = .idle ∧ (s'.cs i).results = (s.cs i).results ++ [.closedErr] ∧ s'.g = s.g) := by
  refine ⟨fun s s' hr hcd i rest hpc hprog hst => ?_, fun s s' hr hcd i k hpc hst => ?_⟩
  · have I := A.inv_reachable hr
    obtain ⟨hcb, hlo⟩ := I.gi.cdone hcd
    cases hrn : s.g.runner with
    | none =>
      obtain rfl : s' = _ := by simpa [A.step, A.callStep, hpc, hprog, I.gi.shut.mpr hrn, hcb] using hst.symm
      simp [A.upd, A.Caller.finish, A.serveEnd, hlo, hcd]
    | some r =>
      obtain rfl := A.step_serve_running hpc hprog (clear_of_runner I.gi.shut hrn) hst
      simp [A.upd, A.Caller.finish, hlo, hcd]
  · have hcl := (S.inv_reachable hr).gi.cdone hcd
    cases hl : s.g.closeLock <;> simp [S.step, S.advStep, hpc, hl, hcl] at hst
    subst hst
    simp [S.upd, S.Caller.finish]

/-- non-vacuity: serve, close while serving (listener task cancelled, run stops), close returns; a later
    serve_forever gets ServerClosedError. -/
example :
    ((A.run (A.State.init fun i => if i = 0 then [.serve, .serve] else if i = 1 then [.close] else [])
        [.call 0, .adv 0 0, .adv 0 0, .adv 0 0, .taskRun, .adv 0 0, .call 1, .taskDie, .adv 1 0, .adv 1 0,
         .adv 0 0, .adv 0 0, .adv 0 0, .call 0]).map
      fun s => (s.g.closeDone, (s.cs 0).results, (s.cs 1).results, s.g.lsOpen)) = some (true, [.ok, .closedErr], [.ok], false) := by
  decide +kernel

/-- **listeners are closed after server_close.**  Asynchronous server: in every reachable state in which a
    `server_close()` has returned normally, the listeners are closed (`lsOpen = false`), `is_listening()` and
    `is_serving()` are False and the factory is gone — for ever, since `closeDone` is never reset.  A close that is
    about to return (`cLs`) has closed them already.
    Standalone server, with the embedded server's BusyResourceError propagated (`fix = true`, docs/C18-fix-1.patch):
    after a `server_close()` that returned normally the listeners are closed, or the serve_forever thread is past the
    portal exit (`portalOpen = false`, embedded run `stopped`) and closes them in its very next step, which needs no
    lock.  (With the original code, `fix = false`, this is FALSE: see the counter-example below.) -/
theorem C18_listeners_closed_after_close :
    (∀ s : A.State, A.Reachable s →
      (s.g.closeDone = true → s.g.lsOpen = false ∧ A.listening s.g = false ∧ A.serving s.g = false ∧ s.g.factoryCb = false) ∧
      (∀ i, (s.cs i).pc = .cLs → s.g.lsOpen = false ∧ s.g.factoryCb = false) ∧
      (∀ i k s', (s.cs i).pc = .cLs → A.step s (.adv i k) = some s' → s'.g.closeDone = true ∧
        (s'.cs i).results = (s.cs i).results ++ [.ok])) ∧
    (∀ s : S.State, S.Reachable s → s.g.fix = true → s.g.closeDone = true →
      s.g.isClosed = true ∧ (s.g.lsOpen = false ∨ (s.g.attr = true ∧ s.g.portalOpen = false ∧ s.g.phase = .stopped))) := by
  refine ⟨fun s hr => ?_, fun s hr hfix hcd => ?_⟩
  · have I := A.inv_reachable hr
    refine ⟨fun hcd => ?_, fun i hp => ?_, fun i k s' hp hst => ?_⟩
    · obtain ⟨hcb, hlo⟩ := I.gi.cdone hcd
      exact ⟨hlo, by simp [A.listening, hlo], by simp [A.serving, A.listening, hlo], hcb⟩
    · have := (I.ci i).2.2.2; simp only [hp] at this; exact ⟨this.2, this.1⟩
    · simp [A.step, A.advStep, hp] at hst
      subst hst
      simp [A.upd, A.Caller.finish]
  · have I := S.inv_reachable hr
    have hcl := I.gi.cdone hcd
    refine ⟨hcl, ?_⟩
    cases hlo : s.g.lsOpen with
    | false => exact Or.inl rfl
    | true => exact Or.inr (I.gi.lsc hfix hcl hlo)

/-- non-vacuity / the defect of the unpatched code: thread 1 calls server_close while thread 0's serve_forever is in
    the set-up of the embedded server (close guard held).  With `fix = false` (BusyResourceError swallowed with the
    other RuntimeErrors) server_close returns `ok`, the closed flag is set, and the listeners are open with the server
    about to serve; with `fix = true` the same schedule ends with BusyResourceError and the server is not marked closed. -/
example :
    ((S.run (S.State.init false fun i => if i = 0 then [.serve] else if i = 1 then [.close] else [])
        [.call 0, .adv 0 0, .adv 0 0, .call 1, .adv 1 0, .adv 1 0, .adv 1 0, .adv 0 0]).map
      fun s => ((s.cs 1).results, s.g.closeDone, s.g.lsOpen, s.g.phase)) = some ([.ok], true, true, .serving) ∧
    ((S.run (S.State.init true fun i => if i = 0 then [.serve] else if i = 1 then [.close] else [])
        [.call 0, .adv 0 0, .adv 0 0, .call 1, .adv 1 0, .adv 1 0, .adv 1 0, .adv 0 0]).map
      fun s => ((s.cs 1).results, s.g.closeDone, s.g.isClosed, s.g.phase)) = some ([.busy], false, false, .serving) ∧
    ((S.run (S.State.init true fun i => if i = 0 then [.serve] else if i = 1 then [.close] else [])
        [.call 0, .adv 0 0, .adv 0 0, .adv 0 0, .call 1, .adv 1 0, .adv 1 0, .adv 1 0]).map
      fun s => ((s.cs 1).results, s.g.closeDone, s.g.lsOpen)) = some ([.ok], true, false) := by
  decide +kernel

/-- **a second concurrent serve_forever is refused with ServerAlreadyRunning; at most one runner.**
    In every reachable state at most one caller is inside serve_forever (from admission — the step that clears
    `is_shutdown` — until the step that sets it again, the last of the tear-down), and while there is one, any other
    serve_forever call ends with ServerAlreadyRunning without touching the server state (asynchronous: in its first
    step; standalone: when it gets the bootstrap lock, releasing the close lock it held). -/
theorem C18_second_serve_refused :
    (∀ s : A.State, A.Reachable s →
      (∀ i j, (s.cs i).pc.inServe = true → (s.cs j).pc.inServe = true → i = j) ∧
      (∀ r i rest s', (s.cs r).pc.inServe = true → (s.cs i).pc = .idle → (s.cs i).prog = .serve :: rest →
        A.step s (.call i) = some s' →
        s'.g = s.g ∧ (s'.cs i).pc = .idle ∧ (s'.cs i).results = (s.cs i).results ++ [.alreadyRunning] ∧
        (s'.cs r).pc = (s.cs r).pc)) ∧
    (∀ s : S.State, S.Reachable s →
      (∀ i j, (s.cs i).pc.inRun = true → (s.cs j).pc.inRun = true → i = j) ∧
      (∀ r i k s', (s.cs r).pc.inRun = true → (s.cs i).pc = .tBoot → S.step s (.adv i k) = some s' →
        (s'.cs i).pc = .idle ∧ (s'.cs i).results = (s.cs i).results ++ [.alreadyRunning] ∧
        s'.g = { s.g with closeLock := none } ∧ (s'.cs r).pc = (s.cs r).pc)) := by
  refine ⟨fun s hr => ?_, fun s hr => ?_⟩
  · have I := A.inv_reachable hr
    refine ⟨fun i j => I.one_runner, fun r i rest s' hrs hpc hprog hst => ?_⟩
    have hne : r ≠ i := fun h => by subst h; simp [hpc, A.Pc.inServe] at hrs
    obtain rfl := A.step_serve_running hpc hprog (clear_of_runner I.gi.shut ((I.ci r).1.mp hrs)) hst
    simp [A.upd, A.Caller.finish, hne]
  · have I := S.inv_reachable hr
    refine ⟨fun i j => I.one_runner, fun r i k s' hrs hpc hst => ?_⟩
    have hsd := clear_of_runner I.gi.shut ((I.ci r).1.mp hrs)
    have hne : r ≠ i := fun h => by subst h; simp [hpc, S.Pc.inRun] at hrs
    cases hb : s.g.bootLock <;> simp [S.step, S.advStep, hpc, hb, hsd] at hst
    subst hst
    simp [S.upd, S.Caller.finish, hne, hb, hsd]

/-- non-vacuity: two callers call serve_forever "at the same time" (caller 1 right after caller 0's first step, and
    again during caller 0's tear-down): both attempts of caller 1 get ServerAlreadyRunning, the third, after the
    tear-down, is admitted. -/
example :
    ((A.run (A.State.init fun i => if i = 0 then [.serve] else if i = 1 then [.serve, .serve, .serve] else if i = 2 then [.shutdown] else [])
        [.call 0, .call 1, .adv 0 0, .adv 0 0, .adv 0 0, .taskRun, .adv 0 0, .call 2, .adv 0 0, .call 1, .taskDie, .adv 0 0,
         .adv 0 0, .call 1]).map
      fun s => ((s.cs 1).results, (s.cs 1).pc, (s.cs 0).results, s.g.runner)) =
      some ([.alreadyRunning, .alreadyRunning], .sInit, [.ok], some 1) := by
  decide +kernel

/-- **no call deadlocks.**  In every reachable state of either machine, either some internal step is enabled
    (a caller resumes; the listener task runs its first step or finishes dying; a client task cancelled by the
    tear-down finishes), or EVERY caller is between two calls (and can issue its next call: calls are always enabled)
    or is the one inside serve_forever in its main sleep with nobody having asked it to stop.  So a `shutdown` waiting
    for the event, a `server_close` waiting for the lock or for the listener tasks, a thread waiting for the close /
    bootstrap lock or for the portal to drain are never all stuck: the wait-for relation
      shutdown-waiter → runner → (listener task | client tasks),   lock-waiter → lock holder → (listener task | runner)
    is acyclic and bottoms out in an enabled step (lemmas `runner_progress`, `holder_progress`, `boot_holder_progress`,
    `close_holder_progress`).  Parametric in the number of callers and in their programs. -/
theorem C18_no_deadlock :
    (∀ s : A.State, A.Reachable s →
      A.Progress s ∨ ∀ i, (s.cs i).pc = .idle ∨
        ((s.cs i).pc = .sSleep ∧ s.g.runner = some i ∧ s.g.runCancel = false ∧ (s.cs i).ext = false)) ∧
    (∀ s : S.State, S.Reachable s →
      S.Progress s ∨ ∀ i, (s.cs i).pc = .idle ∨
        ((s.cs i).pc = .tLoop ∧ s.g.runner = some i ∧ s.g.phase = .serving ∧ s.g.innerCancel = false)) :=
  ⟨fun _ hr => A.no_deadlock (A.inv_reachable hr), fun _ hr => S.no_deadlock (S.inv_reachable hr)⟩

/-- calls are always enabled: a caller between two calls with a non-empty program can issue the next one -/
theorem C18_call_enabled :
    (∀ (s : A.State) i op rest, (s.cs i).pc = .idle → (s.cs i).prog = op :: rest → (A.step s (.call i)).isSome = true) ∧
    (∀ (s : S.State) i op rest, (s.cs i).pc = .idle → (s.cs i).prog = op :: rest → (S.step s (.call i)).isSome = true) := by
  refine ⟨fun s i op rest hpc hprog => ?_, fun s i op rest hpc hprog => ?_⟩
  · -- every branch of the first segment of a call returns
    simp only [A.step, A.callStep, hpc, hprog, Option.isSome_map]
    cases op <;> simp only
    case serve =>
      split
      · rfl
      split
      · rfl
      split <;> rfl
    case shutdown | shutdownT => split <;> rfl
    case close => split <;> rfl
    case probe => rfl
  · cases op <;> simp [S.step, S.callStep, hpc, hprog]

/-- non-vacuity: a state where the only non-idle caller is the runner in its main sleep (no internal step enabled),
    and a state (shutdown waiting during the tear-down, close waiting for the lock) where blocked callers exist and an
    internal step is enabled. -/
example :
    ((A.run (A.State.init fun i => if i = 0 then [.serve] else [])
        [.call 0, .adv 0 0, .adv 0 0, .adv 0 0, .taskRun, .adv 0 0]).map
      fun s => ((s.cs 0).pc, s.g.tasks, (A.advStep 0 0 s.g (s.cs 0)).isSome)) = some (.sSleep, .up, false) ∧
    ((A.run (A.State.init fun i => if i = 0 then [.serve] else if i = 1 then [.close] else if i = 2 then [.close] else if i = 3 then [.shutdown] else [])
        [.call 0, .adv 0 0, .adv 0 0, .adv 0 0, .taskRun, .adv 0 0, .call 1, .call 2, .call 3]).map
      fun s => ((s.cs 1).pc, (s.cs 2).pc, (s.cs 3).pc, s.g.tasks, (A.advStep 0 0 s.g (s.cs 0)).isSome)) =
      some (.cTasks true, .cLock, .dWait 1, .dying, true) := by
  decide +kernel

/-- **C18, a stopped server can serve again: the listener's "accept in progress" marker.**  `shutdown()` does not close the
    listeners (the next `serve_forever()` reuses them): it cancels the task that sits in `ListenerSocketAdapter.raw_accept()`.
    For EVERY history of accept calls, accept results (connections, capacity errors with their 100 ms back-off, ignorable and
    other errors), external cancellations landing in `sock_accept()` or in the back-off sleep, and closes: the marker is set
    exactly while a task is inside `raw_accept()`; hence whenever none is (the server was stopped, however the accept ended),
    the next `raw_accept()` of an open listener starts a new accept — it never answers EBUSY — and the one of a closed
    listener answers EBADF. -/
theorem C18_listener_restartable (es : List Lsn.Ev) :
    ((Lsn.run Lsn.St.init es).marker = true ↔ (Lsn.run Lsn.St.init es).apc ≠ .idle) ∧
    ((Lsn.run Lsn.St.init es).apc = .idle → (Lsn.run Lsn.St.init es).sockRef = true →
      Lsn.step (Lsn.run Lsn.St.init es) .acceptCall = some ((Lsn.run Lsn.St.init es).enterScope .accept, none)) ∧
    ((Lsn.run Lsn.St.init es).apc = .idle → (Lsn.run Lsn.St.init es).sockRef = false →
      Lsn.step (Lsn.run Lsn.St.init es) .acceptCall = some (Lsn.run Lsn.St.init es, some .ebadf)) := by
  have h := Lsn.Inv.reachable es
  generalize Lsn.run Lsn.St.init es = s at h
  refine ⟨h.marker, fun hi hr => ?_, fun hi hr => ?_⟩
  · simp [Lsn.step, hi, h.marker_idle hi, hr]
  · simp [Lsn.step, hi, h.marker_idle hi, hr]

/-- non-vacuity: accept fails with a capacity error, the shutdown lands in the back-off, the next serve accepts again -/
example : Lsn.trace Lsn.St.init [.acceptCall, .acceptDone .capacity, .extCancel, .acceptCall, .acceptDone .ok] =
    [none, none, some .acceptCancelled, none, some .accepted] := by decide +kernel

end EasyNet

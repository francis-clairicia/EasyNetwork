/-
  C19 — Connection racing returns one socket and leaks none.
  Property theorems only (lemmas: EasyNet/Lemmas/Race*.lean; model: EasyNet/Model/Race.lean, tied to
  easynetwork/lowlevel/api_async/backend/_common/dns_resolver.py by the trace-replay correspondence check).

  Everything is stated for an arbitrary configuration `cfg` (any address list of mixed families, any
  socket()/bind()/connect outcome per address, any local address list, finite or infinite stagger delay)
  and an arbitrary list of labels `ls` = an arbitrary schedule: which task takes its next atomic step,
  when the stagger timer expires, what each `connect_socket` answers and when, when (and how often) the
  caller is cancelled.  `run cfg St.init ls = some s` says that the model accepts that schedule.
-/
import EasyNet.Lemmas.Race
import EasyNet.Lemmas.RaceProgress
import EasyNet.Lemmas.RaceSeq
import EasyNet.Lemmas.RaceReorder
namespace EasyNet
open EasyNet.Race

/-- **Invariant.** At every moment of every schedule the open sockets are exactly those of the attempts
    currently suspended in `connect_socket`, plus the elected winner as long as no exception left the race. -/
theorem C19_open_inv (cfg : Cfg) (ls : List Label) (s : St) (h : run cfg St.init ls = some s) (k : Nat) :
    (s.ch k).sock = .opened ↔
      ((s.ch k).pc = .connecting ∨ (s.winner = some k ∧ ∀ r, s.fin ≠ some (.raised r))) :=
  (inv_reachable ⟨ls, h⟩).opn k

/-- **Exactly one socket is returned and nothing else stays open**: if the race returns the socket of
    attempt `w`, then after the return a socket is open iff it is that one. -/
theorem C19_one_returned (cfg : Cfg) (ls : List Label) (s : St) (h : run cfg St.init ls = some s)
    (w : Nat) (hret : s.fin = some (.ret w)) (k : Nat) :
    (s.ch k).sock = .opened ↔ k = w :=
  (only_returned (inv_reachable ⟨ls, h⟩).open_after_end).1 w hret k

/-- **Nothing leaks on failure**: if the race ends with an exception (all attempts failed, the caller was
    cancelled at any step — including after the winner connected —, or an attempt crashed), no socket
    created during the race is open. -/
theorem C19_none_on_failure (cfg : Cfg) (ls : List Label) (s : St) (h : run cfg St.init ls = some s)
    (r : RaiseKind) (hraise : s.fin = some (.raised r)) (k : Nat) :
    (s.ch k).sock ≠ .opened :=
  (only_returned (inv_reachable ⟨ls, h⟩).open_after_end).2 r hraise k

/-- **Once the race is over, at most one socket created during it is open** — whichever way it ended (return or any
    exception) and whatever the schedule was: two open sockets `j`, `k` after the end are the same socket, and an open one
    exists only when it is the value returned. -/
theorem C19_at_most_one_open_after_end (cfg : Cfg) (ls : List Label) (s : St) (h : run cfg St.init ls = some s)
    (hf : s.fin ≠ none) (j k : Nat) (hj : (s.ch j).sock = .opened) (hk : (s.ch k).sock = .opened) :
    j = k ∧ s.fin = some (.ret j) := by
  have I := inv_reachable ⟨ls, h⟩
  rw [I.open_after_end hf] at hj hk
  exact ⟨by cases hj.symm.trans hk; rfl, hj⟩

/-- non-vacuity: three addresses (IPv4 ok, IPv6 ok, IPv4 refused), finite stagger delay.  The loop walks them
    as IPv6, IPv4 (refused), IPv4: all three attempts overlap, both successes arrive, the second one closes
    its own socket, the third attempt is cancelled; the schedule is accepted and returns child 2. -/
example :
    let cfg : Cfg := ⟨[⟨0, 4, true, .ok⟩, ⟨1, 6, true, .ok⟩, ⟨2, 4, true, .err⟩], none, true⟩
    ((run cfg St.init [.spawn, .begin 0, .spawn, .begin 1, .spawn, .begin 2, .res 2 .ok, .res 0 .ok,
        .res 1 .cancelled, .fin .ret]).map
      fun s => (s.fin, cfg.ordered.map (·.id), (s.ch 0).sock, (s.ch 1).sock, (s.ch 2).sock))
      = some (some (.ret 2), [1, 2, 0], .closed, .closed, .opened) := by
  decide +kernel

/-- non-vacuity of the failure theorem: the winner connects, then the caller is cancelled before the
    coroutine returns: the winner is closed and the cancellation is raised. -/
example :
    let cfg : Cfg := ⟨[⟨0, 4, true, .ok⟩, ⟨1, 4, true, .hang⟩], some [⟨4, false⟩, ⟨4, true⟩], true⟩
    ((run cfg St.init [.spawn, .begin 0, .spawn, .begin 1, .res 0 .ok, .cancel, .res 1 .cancelled,
        .fin .cancelled]).map
      fun s => (s.fin, (s.ch 0).sock, (s.ch 1).sock))
      = some (some (.raised .cancelled), .closed, .closed) := by
  decide +kernel


/-- **A reported total failure is never empty**: when the race raises
    `BaseExceptionGroup("create_connection() failed", errors)` for a non-empty address list, `errors` holds at
    least one exception (an empty list would make the constructor itself fail and hide the failure). -/
theorem C19_failure_nonempty (cfg : Cfg) (ls : List Label) (s : St) (h : run cfg St.init ls = some s)
    (m : Nat) (hfin : s.fin = some (.raised (.allfailed m))) (hn : 0 < cfg.n) : 1 ≤ m :=
  allfailed_errors cfg ls h m hfin hn

/-- non-vacuity: two addresses, the first one cannot bind (two bind errors), the second is refused -/
example :
    let cfg : Cfg := ⟨[⟨0, 4, true, .ok⟩, ⟨1, 6, true, .err⟩], some [⟨4, false⟩, ⟨6, true⟩, ⟨4, false⟩], false⟩
    ((run cfg St.init [.spawn, .begin 0, .res 0 .err, .spawn, .begin 1, .fin .allfailed]).map (·.fin))
      = some (some (.raised (.allfailed 3))) := by
  decide +kernel

/-- **Every schedule is finite**: apart from repeated `task.cancel()` calls, a race over `n` addresses takes at
    most `3n + 1` atomic steps (spawn, first step, resumption per attempt, and the end of the coroutine). -/
theorem C19_terminates (cfg : Cfg) (ls : List Label) (s : St) (h : run cfg St.init ls = some s) :
    (ls.filter fun l => l ≠ .cancel).length ≤ 3 * cfg.n + 1 := by
  have := measure_run ls (inv_init cfg) h
  rw [measure_init] at this
  exact Nat.le_trans (Nat.le_add_right _ _) this

/-- **The race never gets stuck by itself**: in every reachable unfinished state some step other than a caller
    cancellation is enabled, unless an attempt hangs in `connect_socket` while nobody has a reason to cancel it. -/
theorem C19_progress (cfg : Cfg) (ls : List Label) (s : St) (h : run cfg St.init ls = some s) (hf : s.fin = none) :
    (∃ l, l ≠ Label.cancel ∧ (step cfg s l).isSome = true) ∨
    (∃ k, (s.ch k).pc = .connecting ∧ (cfg.addr k).out = .hang ∧ s.abortable = false) :=
  progress (inv_reachable ⟨ls, h⟩) (inv2_run ls (inv2_init cfg) h) hf

/-- **The addresses are tried in an order that is a permutation of the resolver's list, IPv6 first**
    (`_interleave_addrinfos(_prioritize_ipv6_over_ipv4(remote_addrinfo))`, families as numbers, 6 = AF_INET6). -/
theorem C19_reorder_perm {α} (fam : α → Nat) (l : List α) :
    (reorder fam l).Perm l ∧
    ((∃ x ∈ l, fam x = 6) → ∃ b t, reorder fam l = b :: t ∧ fam b = 6) := by
  refine ⟨reorder_perm fam l, ?_⟩
  rintro ⟨x, hx, hv⟩
  obtain ⟨b, t, hb, hbv⟩ := reorder_head fam l ⟨x, hx, beq_iff_eq.mpr hv⟩
  exact ⟨b, t, hb, beq_iff_eq.mp hbv⟩

example : reorder (fun p : Nat × Nat => p.2) [(0, 4), (1, 4), (2, 6), (3, 7), (4, 6), (5, 4)]
    = [(2, 6), (5, 4), (3, 7), (4, 6), (0, 4), (1, 4)] := by decide +kernel

/-- **Sequential attempts (`_create_connection_impl` over a whole list, used by `create_datagram_connection`)**:
    for every outcome of the attempts and every cancellation point, a returned socket is the only open one and a
    raised failure leaves none open. -/
theorem C19_seq_one_or_none (cfg : Cfg) (ls : List SeqLabel) (s : SeqSt) (h : seqRun cfg SeqSt.init ls = some s) :
    (∀ k, s.fin = some (.ret k) → ∀ j, s.sock j = .opened ↔ j = k) ∧
    (∀ r, s.fin = some (.raised r) → ∀ j, s.sock j ≠ .opened) :=
  only_returned (seqInv_run ls seqInv_init h).open_after_end

example :
    let cfg : Cfg := ⟨[⟨0, 4, true, .err⟩, ⟨1, 6, false, .ok⟩, ⟨2, 6, true, .ok⟩], none, false⟩
    ((seqRun cfg SeqSt.init [.start, .res .err, .cancel, .res .ok]).map
      fun s => (s.fin, s.sock 0, s.sock 1, s.sock 2, s.errors))
      = some (some (.ret 2), .closed, .none, .opened, 2) := by
  decide +kernel

end EasyNet

/-
  C20 — Sending applies backpressure and never hangs on a dead connection.
  Property theorems only (lemmas: EasyNet/Lemmas/FlowCtl.lean, FlowCtlFlush.lean, FlowCtlSched.lean; model:
  EasyNet/Model/FlowCtl.lean).

  The model is `WriteFlowControl` (drain / pause_writing / resume_writing / connection_lost), the sender coroutines of
  the asyncio adapters (`send_all = write + drain`, `send_all_from_iterable = writelines + drain`, datagram
  `sendto + drain`), the CPython 3.12 task semantics (cancel, wake-up in a later loop turn through a FIFO ready
  queue) and the asyncio transport's user-space write buffer with its pause/resume checks (assumed behaviour of
  asyncio).  An event list is any interleaving of sender starts, kernel progress, connection loss (with / without
  error, direct or through the transport), close, cancellation of individual senders and loop turns, for any number
  of senders.
-/
import EasyNet.Lemmas.FlowCtlFlush
import EasyNet.Lemmas.FlowCtlSched
namespace EasyNet
open EasyNet.C20.FC

/-- **C20, main statement (stream transport).**  With the write-buffer limits forced to 0, no pause/resume calls other
    than the transport's own, and a pause check after `writelines` (by the interpreter: `wlp`, or by the adapter
    re-asserting the limits: `reassert`): in every reachable state, every `send_all` / `send_all_from_iterable` that the
    next loop turn completes *successfully* has all of its bytes (everything up to the end offset of its data in the
    transport's byte stream) taken by the kernel — nothing of it is left in the user-space buffer. -/
theorem C20_returns_only_when_flushed (c : Cfg) (hk : c.kind = .stream) (hh : c.high = 0) (hl : c.low = 0)
    (hfix : c.wlp = true ∨ c.reassert = true) (evs : List Ev) (hnd : ∀ e ∈ evs, e.isDirect = false)
    (log : List (Nat × Res × Option Nat)) (hlog : (step c (run c (St.init c) evs).1 .turn).2 = .turn log)
    (i e : Nat) (hm : (i, Res.ok, some e) ∈ log) :
    e ≤ (step c (run c (St.init c) evs).1 .turn).1.flushed :=
  turn_ok_flushed c hk hfix (finv_run c hk hfix evs hnd (finv_init c hh hl)) hlog hm

/-- non-vacuity: a peer that reads nothing keeps both kinds of sender suspended; they return once the kernel took
    their bytes (offsets 10 and 17), and the turn that completes them reports them flushed -/
example :
    let c : Cfg := { kind := .stream, n := 2, errno := 104, wlp := false, reassert := true, high := 0, low := 0 }
    let evs : List Ev := [.start 0 (.send 10), .turn, .start 1 (.sendv [3, 4]), .turn, .turn, .kernel 5, .turn, .kernel 12]
    (∀ e ∈ evs, e.isDirect = false) ∧
      (run c (St.init c) evs).1.flushed = 17 ∧
      (step c (run c (St.init c) evs).1 .turn).2 = .turn [(1, .ok, some 17), (0, .ok, some 10)] := by
  decide +kernel

/-- **The pause check after `writelines` is necessary.**  In the model of the code before the patch on an interpreter
    whose `writelines()` does not run it (`wlp = reassert = false`, CPython 3.12.1), `send_all_from_iterable` returns
    while all its bytes are still in the user-space buffer. -/
theorem C20_writelines_without_pause_check_returns_unflushed :
    let c : Cfg := { kind := .stream, n := 1, errno := 104, wlp := false, reassert := false, high := 0, low := 0 }
    ∃ evs : List Ev, (∀ e ∈ evs, e.isDirect = false) ∧
      (step c (run c (St.init c) evs).1 .turn).2 = .turn [(0, .ok, some 12)] ∧
      (step c (run c (St.init c) evs).1 .turn).1.flushed = 0 :=
  ⟨[.start 0 (.sendv [5, 7])], by decide +kernel⟩

/-- **pendingWaiter → paused ∧ ¬lost**, for every event list (including hostile direct pause/resume calls), every
    transport kind and any number of senders: a sender is never left parked on a waiter while writing is allowed or
    the connection is gone. -/
theorem C20_waiter_implies_paused (c : Cfg) (evs : List Ev) (i : Nat)
    (hw : Waiting (run c (St.init c) evs).1 i) :
    (run c (St.init c) evs).1.paused = true ∧ (run c (St.init c) evs).1.lost = false :=
  winv_run c evs (winv_init c) i hw

example :
    let c : Cfg := { kind := .wfc, n := 2, errno := 103, wlp := false, reassert := false, high := 0, low := 0 }
    Waiting (run c (St.init c) [.pause, .start 0 .drain, .start 1 .drain, .turn, .cancel 0, .turn]).1 1 := by
  decide +kernel

/-- **Every suspended sender is resumed when writing resumes.**  `resume_writing` completes the waiter of every
    parked sender, schedules its wake-up, leaves nobody waiting; and the wake-up of a sender that was not cancelled
    meanwhile makes its `drain()` return normally. -/
theorem C20_all_resumed (c : Cfg) (s : St) (i : Nat) (hi : i < c.n) (hw : Waiting s i) :
    ((fcResume c s).senders i).pc = .atWaiter ∧ ((fcResume c s).senders i).fut = .result ∧
    Handle.task i ∈ (fcResume c s).ready ∧ (∀ j, ¬ Waiting (fcResume c s) j) ∧
    (((fcResume c s).senders i).mustCancel = false →
      ((runTask c (fcResume c s) i).senders i).pc = .idle ∧
      (runTask c (fcResume c s) i).doneLog = (i, .ok, (s.senders i).endOff) :: s.doneLog) := by
  have ⟨e, hm, hn, hr⟩ :=
    completeAll_wakes c (s := { s with paused := false }) (v := .result) (fun h => nomatch h) hi hw
  exact ⟨(congrArg Sender.pc e).trans hw.1, congrArg Sender.fut e, hm, hn, hr⟩

example :
    let c : Cfg := { kind := .wfc, n := 3, errno := 103, wlp := false, reassert := false, high := 0, low := 0 }
    let s := (run c (St.init c) [.pause, .start 0 .drain, .start 2 .drain, .turn]).1
    Waiting s 0 ∧ Waiting s 2 ∧ (step c (fcResume c s) .turn).2 = .turn [(2, .ok, none), (0, .ok, none)] := by
  decide +kernel

/-- **Every suspended sender fails with a connection error when the connection is lost** (with the given exception,
    or with the configured errno when there is none); nobody is left waiting, and a `drain()` started afterwards fails
    at once instead of parking. -/
theorem C20_all_failed_on_loss (c : Cfg) (s : St) (e : Option Nat) (hl : s.lost = false) (i : Nat) (hi : i < c.n)
    (hw : Waiting s i) :
    ((fcLost c s e).senders i).fut = .exc (e.getD c.errno) ∧ Handle.task i ∈ (fcLost c s e).ready ∧
    (∀ j, ¬ Waiting (fcLost c s e) j) ∧ (fcLost c s e).lost = true ∧
    (((fcLost c s e).senders i).mustCancel = false →
      (runTask c (fcLost c s e) i).doneLog = (i, .err (e.getD c.errno), (s.senders i).endOff) :: s.doneLog) ∧
    (∀ j, (drainBody c (fcLost c s e) j).doneLog
        = (j, .err (e.getD c.errno), ((fcLost c s e).senders j).endOff) :: (fcLost c s e).doneLog) := by
  rw [fcLost, if_neg (hl ▸ Bool.false_ne_true)]
  have ⟨e', hm, hn, hr⟩ := completeAll_wakes c (s := { s with paused := false, lost := true, lostExc := e })
    (v := .exc (e.getD c.errno)) (fun h => nomatch h) hi hw
  exact ⟨congrArg Sender.fut e', hm, hn, rfl, fun hmc => (hr hmc).2,
    fun j => (congrArg St.doneLog (if_pos rfl)).trans rfl⟩

example :
    let c : Cfg := { kind := .stream, n := 2, errno := 104, wlp := false, reassert := true, high := 0, low := 0 }
    let s := (run c (St.init c) [.start 0 (.send 9), .start 1 (.sendv [2, 2]), .turn, .turn]).1
    s.lost = false ∧ Waiting s 0 ∧ Waiting s 1 ∧
      (run c s [.fail (some 32), .turn, .turn]).2.getLast? = some (.turn [(1, .err 32, some 13), (0, .err 32, some 9)]) := by
  decide +kernel

/-- **Cancelling one suspended sender does not strand the others**: `task.cancel()` on sender `i` changes nothing but
    sender `i` itself (its waiter is cancelled and its wake-up scheduled): the flags, the write buffer, every other
    sender and every already scheduled wake-up are untouched — so the two theorems above still apply to the others. -/
theorem C20_cancel_one_keeps_others (s : St) (i : Nat) :
    (∀ j, j ≠ i → (cancelTask s i).senders j = s.senders j) ∧
    (cancelTask s i).paused = s.paused ∧ (cancelTask s i).lost = s.lost ∧ (cancelTask s i).tbuf = s.tbuf ∧
    (∀ h, h ∈ s.ready → h ∈ (cancelTask s i).ready) ∧
    (Waiting s i → ((cancelTask s i).senders i).fut = .cancelled ∧ Handle.task i ∈ (cancelTask s i).ready) :=
  cancelTask_cases s i
    (fun hpc => ⟨fun _ _ => rfl, rfl, rfl, rfl, fun _ h => h, fun hw => nomatch hpc.symm.trans hw.1⟩)
    (fun hnw => ⟨fun _ hji => upd_of_ne _ _ hji, rfl, rfl, rfl, fun _ h => h, fun hw => absurd hw hnw⟩)
    (fun _ => ⟨fun _ hji => upd_of_ne _ _ hji, rfl, rfl, rfl, fun _ h => List.mem_append_left _ h,
      fun _ => ⟨congrArg Sender.fut (upd_self ..), List.mem_append_right _ (List.mem_singleton_self _)⟩⟩)

example :
    let c : Cfg := { kind := .wfc, n := 3, errno := 103, wlp := false, reassert := false, high := 0, low := 0 }
    let s := (run c (St.init c) [.pause, .start 0 .drain, .start 1 .drain, .start 2 .drain, .turn]).1
    Waiting s 1 ∧ (run c s [.cancel 1, .turn, .resume, .turn]).2 =
      [.cancel, .turn [(1, .cancelled, none)], .resume, .turn [(2, .ok, none), (0, .ok, none)]] := by
  decide +kernel

/-- **No lost wake-up, no sender stranded.**  For every event list (any transport kind, any number of senders, hostile
    direct pause/resume calls included), every sender task that exists in the reached state is either parked on a
    *pending* drain waiter — and then writing is paused and the connection alive, so `C20_all_resumed` /
    `C20_all_failed_on_loss` apply to it — or has its next step / wake-up in the event loop's ready queue, which the
    next loop turn runs.  In particular nothing that happens to *another* sender (cancellation, completion, error) can
    leave this one suspended without a pending waiter. -/
theorem C20_no_lost_wakeup (c : Cfg) (evs : List Ev) (i : Nat)
    (h : ((run c (St.init c) evs).1.senders i).pc ≠ .idle) :
    (Waiting (run c (St.init c) evs).1 i ∧ (run c (St.init c) evs).1.paused = true ∧ (run c (St.init c) evs).1.lost = false) ∨
    Handle.task i ∈ (run c (St.init c) evs).1.ready := by
  rcases (qinv_run c evs (qinv_init c) i h).2 with hw | hm
  · exact Or.inl ⟨hw, winv_run c evs (winv_init c) i hw⟩
  · exact Or.inr hm

example :
    let c : Cfg := { kind := .stream, n := 3, errno := 104, wlp := false, reassert := true, high := 0, low := 0 }
    let s := (run c (St.init c) [.start 0 (.send 9), .start 1 (.sendv [2, 2]), .turn, .start 2 .drain, .cancel 0, .kernel 20]).1
    (s.senders 0).pc ≠ .idle ∧ (s.senders 1).pc ≠ .idle ∧ (s.senders 2).pc ≠ .idle ∧
      s.ready = [.task 2, .task 0, .task 1] := by
  decide +kernel

end EasyNet
